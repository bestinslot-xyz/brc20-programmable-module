/-
What the functions of the engine bookkeeping model (`Brc20.Model.Node`) return: for each function a lemma that names its
few outcomes (`addTxs_spec`, `addRawTx_cases`, ..) and the equations of its branches; `reorg`, `clear` and the two
heights are in Proofs/NodeSim.lean. The files that build on this one go through these lemmas. A model function is
unfolded again where a proof follows it side by side with the `g*` function that mirrors it (Proofs/Ops.lean) and where
a theorem states one of its refusals (Props/C05.lean).
-/
import Brc20.Model.Node
import Brc20.Proofs.AMap
import Brc20.Proofs.Events

namespace Brc20
namespace Node

/-- one transaction run as `txRuns` returns it: `(fields, okRun, success, gas, logs)`. `bumpLbi` counts the gas
(`r.2.2.2.1`) and the logs (`r.2.2.2.2`) of a run only if `okRun` (`r.2.1`). -/
abbrev Run := List (String × String) × Bool × Bool × Nat × Nat

theorem validateNextTx_eq_none {n : Node} {idx : Nat} {hash : String} {bn ts : Nat} :
    n.validateNextTx idx hash bn ts = none ↔
      n.lbi.waiting = idx ∧ (n.lbi.waiting ≠ 0 → n.lbi.ts = ts ∧ n.lbi.hash = hash) ∧
        n.blockExists hash bn = false := by
  unfold validateNextTx
  by_cases h1 : n.lbi.waiting ≠ idx
  · rw [if_pos h1]; exact ⟨nofun, fun h => absurd h.1 h1⟩
  rw [if_neg h1]
  by_cases h2 : n.lbi.waiting ≠ 0 ∧ n.lbi.ts ≠ ts
  · rw [if_pos h2]; exact ⟨nofun, fun h => absurd (h.2.1 h2.1).1 h2.2⟩
  rw [if_neg h2]
  by_cases h3 : n.lbi.waiting ≠ 0 ∧ n.lbi.hash ≠ hash
  · rw [if_pos h3]; exact ⟨nofun, fun h => absurd (h.2.1 h3.1).2 h3.2⟩
  rw [if_neg h3]
  cases n.blockExists hash bn with
  | true => exact ⟨nofun, fun h => nomatch h.2.2⟩
  | false =>
    exact ⟨fun _ => ⟨Decidable.not_not.mp h1, fun hw => ⟨Decidable.not_not.mp fun h => h2 ⟨hw, h⟩,
      Decidable.not_not.mp fun h => h3 ⟨hw, h⟩⟩, rfl⟩, fun _ => rfl⟩

theorem normHash_zero (bn : Nat) : normHash zeroHash bn = generatedHash bn := if_pos rfl

theorem normHash_idem (h : String) (bn : Nat) : normHash (normHash h bn) bn = normHash h bn := by
  unfold normHash
  by_cases h1 : h = zeroHash
  · rw [if_pos h1]; split <;> rfl
  · rw [if_neg h1, if_neg h1]

/-- the value `hexVal` gives one character (the local `d` of its fold) -/
def hexDigitVal (c : Char) : Nat :=
  if '0' ≤ c && c ≤ '9' then c.toNat - 48 else if 'a' ≤ c && c ≤ 'f' then c.toNat - 87 else 0

theorem hexVal_eq (s : String) : hexVal s = s.toList.foldl (fun acc c => acc * 16 + hexDigitVal c) 0 := rfl

theorem hexDigitVal_hexDigitChar : ∀ d, d < 16 → hexDigitVal (hexDigitChar d) = d := by decide

theorem hexN_go_append (w m : Nat) (acc : List Char) : hexN.go w m acc = hexN.go w m [] ++ acc := by
  induction w generalizing m acc with
  | zero => simp [hexN.go]
  | succ w ih =>
    simp only [hexN.go]
    rw [ih (m / 16) (hexDigitChar (m % 16) :: acc), ih (m / 16) [hexDigitChar (m % 16)]]
    simp

theorem foldl_hexN_go (w m : Nat) :
    (hexN.go w m []).foldl (fun acc c => acc * 16 + hexDigitVal c) 0 = m % 16 ^ w := by
  induction w generalizing m with
  | zero => simp [hexN.go, Nat.mod_one]
  | succ w ih =>
    simp only [hexN.go]
    rw [hexN_go_append, List.foldl_append, ih]
    simp only [List.foldl_cons, List.foldl_nil]
    rw [hexDigitVal_hexDigitChar _ (Nat.mod_lt _ (by decide))]
    rw [Nat.pow_succ, Nat.mul_comm (16 ^ w) 16, Nat.mod_mul]
    omega

theorem hexVal_hexN (w m : Nat) : hexVal (hexN w m) = m % 16 ^ w := by
  rw [hexVal_eq]
  unfold hexN
  simp only [String.toList_ofList]
  exact foldl_hexN_go w m

/-- `generate_block_hash` is injective on numbers that fit in 32 bytes (block numbers are `u64`) -/
theorem generatedHash_inj {a b : Nat} (ha : a + 1 < 16 ^ 64) (hb : b + 1 < 16 ^ 64)
    (h : generatedHash a = generatedHash b) : a = b := by
  have := congrArg hexVal h
  simp only [generatedHash, hexVal_hexN, Nat.mod_eq_of_lt ha, Nat.mod_eq_of_lt hb] at this
  omega

theorem bumpLbi_nil (l : Lbi) : bumpLbi l [] = l := rfl

theorem bumpLbi_cons (l : Lbi) (r : Run) (rs : List Run) :
    bumpLbi l (r :: rs) =
      bumpLbi { l with waiting := l.waiting + 1,
                       gasUsed := if l.gasUsed + (if r.2.1 then r.2.2.2.1 else 0) ≤ U64MAX
                                  then l.gasUsed + (if r.2.1 then r.2.2.2.1 else 0) else l.gasUsed,
                       logIndex := l.logIndex + (if r.2.1 then r.2.2.2.2 else 0) } rs := rfl

theorem bumpLbi_waiting (l : Lbi) (runs : List Run) : (bumpLbi l runs).waiting = l.waiting + runs.length := by
  induction runs generalizing l with
  | nil => rfl
  | cons r rs ih => rw [bumpLbi_cons, ih]; simp only [List.length_cons]; omega

theorem bumpLbi_ts (l : Lbi) (runs : List Run) : (bumpLbi l runs).ts = l.ts := by
  induction runs generalizing l with
  | nil => rfl
  | cons r rs ih => rw [bumpLbi_cons, ih]

theorem bumpLbi_hash (l : Lbi) (runs : List Run) : (bumpLbi l runs).hash = l.hash := by
  induction runs generalizing l with
  | nil => rfl
  | cons r rs ih => rw [bumpLbi_cons, ih]

theorem bumpLbi_logIndex (l : Lbi) (runs : List Run) :
    (bumpLbi l runs).logIndex = l.logIndex + (runs.map (fun r => if r.2.1 then r.2.2.2.2 else 0)).sum := by
  induction runs generalizing l with
  | nil => rfl
  | cons r rs ih => rw [bumpLbi_cons, ih]; simp only [List.map_cons, List.sum_cons]; omega

theorem bumpLbi_gasUsed (l : Lbi) (runs : List Run)
    (hfit : l.gasUsed + (runs.map (fun r => if r.2.1 then r.2.2.2.1 else 0)).sum ≤ U64MAX) :
    (bumpLbi l runs).gasUsed = l.gasUsed + (runs.map (fun r => if r.2.1 then r.2.2.2.1 else 0)).sum := by
  induction runs generalizing l with
  | nil => rfl
  | cons r rs ih =>
    simp only [List.map_cons, List.sum_cons] at hfit
    have h1 : l.gasUsed + (if r.2.1 then r.2.2.2.1 else 0) ≤ U64MAX := by omega
    rw [bumpLbi_cons, ih]
    · simp only [List.map_cons, List.sum_cons, if_pos h1]; omega
    · simp only [if_pos h1]; omega

/-- The answer `r` of a call on `n` that checks the block protocol first (`v`: its verdict), then the recorded events:
an error of the protocol check or a model reject, both leaving `n`; or `ok` with a node satisfying `acc`. -/
inductive Outcome (n : Node) (v : Option String) (acc : Node → Prop) (r : Node × Class) : Prop
  | err (e : String) : v = some e → r = (n, .err e) → Outcome n v acc r
  | reject (w : String) : v = none → r = (n, .reject w) → Outcome n v acc r
  | ok (n1 : Node) : v = none → acc n1 → r = (n1, .ok) → Outcome n v acc r

namespace Outcome
variable {n : Node} {v : Option String} {acc : Node → Prop} {r : Node × Class}

theorem fst_of_ne_ok (o : Outcome n v acc r) (hne : r.2 ≠ .ok) : r.1 = n := by
  cases o with
  | err _ _ hr | reject _ _ hr => rw [hr]
  | ok _ _ _ hr => rw [hr] at hne; exact absurd rfl hne

theorem of_err (o : Outcome n v acc r) {e : String} (he : r.2 = .err e) : v = some e ∧ r.1 = n := by
  cases o with
  | err e' hv hr => rw [hr] at he ⊢; cases he; exact ⟨hv, rfl⟩
  | reject _ _ hr | ok _ _ _ hr => rw [hr] at he; cases he

theorem of_ok (o : Outcome n v acc r) (hok : r.2 = .ok) : v = none ∧ acc r.1 := by
  cases o with
  | err _ _ hr | reject _ _ hr => rw [hr] at hok; cases hok
  | ok _ hv ha hr => rw [hr]; exact ⟨hv, ha⟩

theorem of_invalid (o : Outcome n v acc r) {e : String} (hv : v = some e) : r = (n, .err e) := by
  cases o with
  | err e' hv' hr => cases hv'.symm.trans hv; exact hr
  | reject _ hv' _ | ok _ hv' _ _ => cases hv'.symm.trans hv

theorem guard {c : Prop} [Decidable c] {w : String} (hv : v = none) (hrest : ¬c → Outcome n v acc r) :
    Outcome n v acc (if c then (n, .reject w) else r) := by
  split
  · exact .reject w hv rfl
  · exact hrest ‹_›

end Outcome

/-- the block info an accepted `addTxs` starts from: the local `l0` of `Node.addTxs`, which has to have a name for
`addTxs_spec` to be stated -/
def startLbi (n : Node) (ts : Nat) (hash : String) : Lbi :=
  if n.lbi.waiting = 0 then { waiting := 0, ts := ts, hash := hash, gasUsed := 0, logIndex := 0 } else n.lbi

theorem startLbi_waiting (n : Node) (ts : Nat) (hash : String) : (startLbi n ts hash).waiting = n.lbi.waiting := by
  unfold startLbi
  split
  · rename_i h; exact h.symm
  · rfl

/-- what an accepted `addTxs` has checked; `n'` is the node after the recorded writes -/
structure TxAccepted (n : Node) (ts : Nat) (hash : String) (txid : Option String) (evs : List Ev)
    (k : Option Nat) (n' : Node) : Prop where
  runs : txRuns evs ≠ []
  count : ∀ k', k = some k' → (txRuns evs).length = k'
  env : ∀ r ∈ txRuns evs, envOk r.1 n.nextHeight ts hash none = true
  envHead : ∀ r, (txRuns evs).head? = some r → envOk r.1 n.nextHeight ts hash txid = true
  noBlock : noBlockWrites evs = true
  noPendingSet : noPendingSet evs = true
  applied : applyEvents n n.nextHeight evs = some n'

theorem TxAccepted.waiting_ne {n n' : Node} {ts : Nat} {hash : String} {txid : Option String} {evs : List Ev}
    {k : Option Nat} (a : TxAccepted n ts hash txid evs k n') (l : Lbi) : (bumpLbi l (txRuns evs)).waiting ≠ 0 := by
  rw [bumpLbi_waiting]
  have := List.length_pos_iff.mpr a.runs
  omega

theorem addTxs_spec (n : Node) (ts : Nat) (h : String) (idx : Nat) (txid : Option String) (evs : List Ev)
    (k : Option Nat) :
    Outcome n (n.validateNextTx idx (normHash h n.nextHeight) n.nextHeight ts)
      (fun n1 => ∃ n', TxAccepted n ts (normHash h n.nextHeight) txid evs k n' ∧
        n1 = { n' with lbi := bumpLbi (startLbi n ts (normHash h n.nextHeight)) (txRuns evs) })
      (n.addTxs ts h idx txid evs k) := by
  cases hv : n.validateNextTx idx (normHash h n.nextHeight) n.nextHeight ts with
  | some e => exact .err e rfl (by simp only [addTxs, hv])
  | none =>
    simp only [addTxs, hv]
    refine .guard rfl fun h1 => .guard rfl fun h2 => .guard rfl fun h3 => .guard rfl fun h4 => .guard rfl fun h5 =>
      .guard rfl fun h6 => ?_
    cases ha : applyEvents n n.nextHeight evs with
    | none => exact .reject _ rfl rfl
    | some n' =>
      refine .ok _ rfl ⟨n', ⟨fun hc => h1 (by rw [hc]; rfl), ?_, ?_, ?_, by simpa using h5, by simpa using h6, ha⟩, rfl⟩ rfl
      · intro k' hk; subst hk; simpa using h2
      · simpa only [Bool.not_eq_true', Bool.not_eq_false, List.all_eq_true] using h3
      · intro r hr; rw [hr] at h4; simpa using h4

section
variable {n : Node} {ts : Nat} {h : String} {idx : Nat} {txid : Option String} {evs : List Ev} {k : Option Nat}

theorem addTxs_fst_of_ne_ok (hne : (n.addTxs ts h idx txid evs k).2 ≠ .ok) : (n.addTxs ts h idx txid evs k).1 = n :=
  (addTxs_spec n ts h idx txid evs k).fst_of_ne_ok hne

theorem addTxs_err {e : String} (he : (n.addTxs ts h idx txid evs k).2 = .err e) :
    n.validateNextTx idx (normHash h n.nextHeight) n.nextHeight ts = some e ∧ (n.addTxs ts h idx txid evs k).1 = n :=
  (addTxs_spec n ts h idx txid evs k).of_err he

theorem addTxs_accepted (hok : (n.addTxs ts h idx txid evs k).2 = .ok) :
    n.validateNextTx idx (normHash h n.nextHeight) n.nextHeight ts = none ∧
    ∃ n', TxAccepted n ts (normHash h n.nextHeight) txid evs k n' ∧
      (n.addTxs ts h idx txid evs k).1 =
        { n' with lbi := bumpLbi (startLbi n ts (normHash h n.nextHeight)) (txRuns evs) } :=
  (addTxs_spec n ts h idx txid evs k).of_ok hok

theorem addTxs_of_invalid {e : String}
    (hv : n.validateNextTx idx (normHash h n.nextHeight) n.nextHeight ts = some e) :
    n.addTxs ts h idx txid evs k = (n, .err e) :=
  (addTxs_spec n ts h idx txid evs k).of_invalid hv

end

/-- what an accepted `finaliseOne` has checked; `n'` is the node after the recorded writes -/
structure FinAccepted (n : Node) (hash : String) (evs : List Ev) (n' : Node) : Prop where
  finOnly : finOnly hash evs = true
  noPendingSet : noPendingSet evs = true
  applied : applyEvents n n.nextHeight evs = some n'
  hashRow : (n'.b .numberToHash).get n.nextHeight = some hash
  blockRow : ((n'.b .block).get n.nextHeight).isSome
  rawRow : ((n'.b .rawBlock).get n.nextHeight).isSome
  hashIndex : (n'.t .hashToNumber).latest hash = some (hexN 16 n.nextHeight)
  fresh : poolFreshAt n' n.nextHeight = true

/-- the node an accepted `finaliseOne` of block `bn` returns, from the node after the recorded writes -/
def finalised (n' : Node) (bn : Nat) (hash : String) : Node :=
  { n' with latest := some (bn, hash),
            maxBlock := (match n'.maxBlock with | none => some bn | some m => some (max m bn)),
            lbi := {} }

theorem finalised_latestHeight (n' : Node) (bn : Nat) (hash : String) : (finalised n' bn hash).latestHeight = bn := rfl

theorem finalised_nextHeight (n' : Node) (bn : Nat) (hash : String) : (finalised n' bn hash).nextHeight = bn + 1 := rfl

theorem finalised_t (n' : Node) (bn : Nat) (hash : String) : (finalised n' bn hash).t = n'.t := rfl

theorem finalised_mb (n' : Node) (bn : Nat) (hash : String) :
    (finalised n' bn hash).maxBlock.getD 0 = max (n'.maxBlock.getD 0) bn := by
  unfold finalised
  cases n'.maxBlock with
  | none => exact (Nat.zero_max bn).symm
  | some m => rfl

theorem finaliseOne_spec (n : Node) (ts : Nat) (h : String) (count : Nat) (evs : List Ev) :
    Outcome n (n.validateNextTx count (normHash h n.nextHeight) n.nextHeight ts)
      (fun n1 => ∃ n', FinAccepted n (normHash h n.nextHeight) evs n' ∧
        n1 = finalised n' n.nextHeight (normHash h n.nextHeight))
      (n.finaliseOne ts h count evs) := by
  cases hv : n.validateNextTx count (normHash h n.nextHeight) n.nextHeight ts with
  | some e => exact .err e rfl (by simp only [finaliseOne, hv])
  | none =>
    simp only [finaliseOne, hv]
    refine .guard rfl fun h1 => .guard rfl fun h2 => ?_
    cases ha : applyEvents n n.nextHeight evs with
    | none => exact .reject _ rfl rfl
    | some n' =>
      simp only []
      refine .guard rfl fun h3 => .guard rfl fun h4 => .guard rfl fun h5 => .guard rfl fun h6 => ?_
      -- The in-memory height becomes the finalised block: the height being built is above `latest`. The `match`
      -- written here is not the model's matcher (`rw` does not find it), so `hl` goes under the record update by
      -- `congrArg` in the last line.
      have hl : (match n'.latest with
          | none => some (n.nextHeight, normHash h n.nextHeight)
          | some (h', x) => if n.nextHeight > h' then some (n.nextHeight, normHash h n.nextHeight) else some (h', x)) =
          some (n.nextHeight, normHash h n.nextHeight) := by
        rw [(applyEvents_fields ha).2.1]
        unfold nextHeight
        cases n.latest with
        | none => rfl
        | some p => exact if_pos (Nat.lt_succ_self p.1)
      have h4' := not_or.mp h4
      exact .ok _ rfl ⟨n', ⟨by simpa using h1, by simpa using h2, ha, Decidable.not_not.mp h3,
        by simpa [Option.isSome_iff_ne_none] using h4'.1, by simpa [Option.isSome_iff_ne_none] using h4'.2,
        Decidable.not_not.mp h5, by simpa using h6⟩, rfl⟩
        (congrArg (fun l => (({ finalised n' n.nextHeight (normHash h n.nextHeight) with latest := l } : Node), Class.ok)) hl)

section
variable {n : Node} {ts : Nat} {h : String} {count : Nat} {evs : List Ev}

theorem finaliseOne_fst_of_ne_ok (hne : (n.finaliseOne ts h count evs).2 ≠ .ok) : (n.finaliseOne ts h count evs).1 = n :=
  (finaliseOne_spec n ts h count evs).fst_of_ne_ok hne

theorem finaliseOne_err {e : String} (he : (n.finaliseOne ts h count evs).2 = .err e) :
    n.validateNextTx count (normHash h n.nextHeight) n.nextHeight ts = some e ∧ (n.finaliseOne ts h count evs).1 = n :=
  (finaliseOne_spec n ts h count evs).of_err he

theorem finaliseOne_accepted (hok : (n.finaliseOne ts h count evs).2 = .ok) :
    n.validateNextTx count (normHash h n.nextHeight) n.nextHeight ts = none ∧
    ∃ n', FinAccepted n (normHash h n.nextHeight) evs n' ∧
      (n.finaliseOne ts h count evs).1 = finalised n' n.nextHeight (normHash h n.nextHeight) :=
  (finaliseOne_spec n ts h count evs).of_ok hok

theorem finaliseOne_of_invalid {e : String}
    (hv : n.validateNextTx count (normHash h n.nextHeight) n.nextHeight ts = some e) :
    n.finaliseOne ts h count evs = (n, .err e) :=
  (finaliseOne_spec n ts h count evs).of_invalid hv

end

theorem drainPlan_succ (n : Node) (sender : String) (bn fuel nonce : Nat) :
    drainPlan n sender bn (fuel + 1) nonce =
      match (n.t .pending).latest (sender ++ hexN 16 nonce) with
      | none => (0, 0)
      | some v =>
        ((if (match parkedBlock v with | some pb => decide (FUTURE_BLOCKS + pb > bn) | none => false) then 1 else 0) +
          (drainPlan n sender bn fuel (nonce + 1)).1, (drainPlan n sender bn fuel (nonce + 1)).2 + 1) := by
  rw [drainPlan]
  cases (n.t .pending).latest (sender ++ hexN 16 nonce) with
  | none => rfl
  | some v =>
    simp only []
    -- `rfl` alone goes into `parkedBlock v` (string functions on a variable, slow): take its two cases first
    cases parkedBlock v with
    | none => rfl
    | some pb => rfl

theorem drainCheck_cases (n : Node) (sender : String) (start visited : Nat) (r : Node × Class) :
    (drainCheck n sender start visited r = r ∧ (r.2 = .ok → drainGone r.1 sender start visited = true)) ∨
    (r.2 = .ok ∧ drainCheck n sender start visited r = (n, .reject "drain-kept")) := by
  obtain ⟨n', c⟩ := r
  cases c with
  | ok =>
    by_cases hg : drainGone n' sender start visited = true
    · exact .inl ⟨if_pos hg, fun _ => hg⟩
    · exact .inr ⟨rfl, if_neg hg⟩
  | err | panic | reject => exact .inl ⟨rfl, nofun⟩

theorem drainCheck_ok {n : Node} {sender : String} {start visited : Nat} {r : Node × Class}
    (hok : (drainCheck n sender start visited r).2 = .ok) :
    r.2 = .ok ∧ drainCheck n sender start visited r = r ∧ drainGone r.1 sender start visited = true := by
  rcases drainCheck_cases n sender start visited r with ⟨e, hg⟩ | ⟨_, e⟩
  · rw [e] at hok; exact ⟨hok, e, hg hok⟩
  · rw [e] at hok; cases hok

theorem drainCheck_fst_of_ne_ok {n : Node} {sender : String} {start visited : Nat} {r : Node × Class}
    (hr : r.2 ≠ .ok → r.1 = n) (hne : (drainCheck n sender start visited r).2 ≠ .ok) :
    (drainCheck n sender start visited r).1 = n := by
  rcases drainCheck_cases n sender start visited r with ⟨e, _⟩ | ⟨_, e⟩
  · rw [e] at hne ⊢; exact hr hne
  · rw [e]

theorem drainGone_spec {n : Node} {sender : String} {start visited : Nat}
    (h : drainGone n sender start visited = true) :
    ∀ k, k < visited → (n.t .pending).latest (sender ++ hexN 16 (start + k)) = none := by
  intro k hk
  unfold drainGone at h
  rw [List.all_eq_true] at h
  have := h k (List.mem_range.mpr hk)
  simpa using this

theorem poolFreshAt_spec {n : Node} {bn : Nat} (h : poolFreshAt n bn = true) :
    ∀ k v, (n.t .pending).latest k = some v → ∃ pb, parkedBlock v = some pb ∧ bn < pb + FUTURE_BLOCKS := by
  intro k v hl
  unfold poolFreshAt at h
  rw [List.all_eq_true] at h
  have := h k (Table.mem_keys_of_latest hl)
  rw [hl] at this
  simp only at this
  cases hp : parkedBlock v with
  | none => rw [hp] at this; cases this
  | some pb =>
    rw [hp] at this
    exact ⟨pb, rfl, by simpa using this⟩

theorem addRawTx_exec (n : Node) (ts : Nat) (hash0 : String) (idx : Nat) (txid : String) (sender : String)
    (evs : List Ev) :
    n.addRawTx ts hash0 idx txid (.ok sender (n.accountNonce sender)) evs =
      drainCheck n sender (n.accountNonce sender + 1)
        (drainPlan n sender n.nextHeight FUTURE_NONCES (n.accountNonce sender + 1)).2
        (n.addTxs ts hash0 idx (some txid) evs
          (some (1 + (drainPlan n sender n.nextHeight FUTURE_NONCES (n.accountNonce sender + 1)).1))) := by
  simp only [addRawTx, ne_eq, not_true_eq_false, if_false]

theorem addRawTx_cases (n : Node) (ts : Nat) (hash0 : String) (idx : Nat) (txid : String) (dec : RawDecode)
    (evs : List Ev) :
    (n.addRawTx ts hash0 idx txid dec evs).1 = n ∨
    (∃ sender nonce, dec = .ok sender nonce ∧
      n.accountNonce sender < nonce ∧ nonce < n.accountNonce sender + FUTURE_NONCES ∧
      (txRuns evs).isEmpty = true ∧ poolOnly evs = true ∧ parkedShape sender nonce n.nextHeight evs = true ∧
      applyEvents n n.nextHeight evs = some (n.addRawTx ts hash0 idx txid dec evs).1 ∧
      (n.addRawTx ts hash0 idx txid dec evs).2 = .ok) ∨
    (∃ sender k, dec = .ok sender (n.accountNonce sender) ∧ (n.addTxs ts hash0 idx (some txid) evs k).2 = .ok ∧
      n.addRawTx ts hash0 idx txid dec evs = n.addTxs ts hash0 idx (some txid) evs k) := by
  cases dec with
  | fail => exact .inl rfl
  | wrongChain => unfold addRawTx; simp only []; split <;> exact .inl rfl
  | ok sender nonce =>
    by_cases hn : nonce = n.accountNonce sender
    · -- executed: `drainCheck` hands on the answer of `addTxs`, or rejects and leaves `n`
      subst hn
      rw [addRawTx_exec]
      generalize drainPlan n sender n.nextHeight FUTURE_NONCES (n.accountNonce sender + 1) = plan
      rcases drainCheck_cases n sender (n.accountNonce sender + 1) plan.2
        (n.addTxs ts hash0 idx (some txid) evs (some (1 + plan.1))) with ⟨e, _⟩ | ⟨_, e⟩
      · rw [e]
        by_cases hok : (n.addTxs ts hash0 idx (some txid) evs (some (1 + plan.1))).2 = .ok
        · exact .inr (.inr ⟨sender, _, rfl, hok, rfl⟩)
        · exact .inl (addTxs_fst_of_ne_ok hok)
      · rw [e]; exact .inl rfl
    · simp only [addRawTx, ne_eq, hn, not_false_eq_true, if_true]
      by_cases hb : nonce > n.accountNonce sender ∧ nonce < n.accountNonce sender + FUTURE_NONCES
      · -- parked, unless a check on the recorded events fails
        rw [if_pos hb]
        cases h3 : (txRuns evs).isEmpty with
        | false => exact .inl rfl
        | true =>
          cases h4 : poolOnly evs with
          | false => exact .inl rfl
          | true =>
            cases h5 : parkedShape sender nonce n.nextHeight evs with
            | false => exact .inl rfl
            | true =>
              cases ha : applyEvents n n.nextHeight evs with
              | none => exact .inl rfl
              | some n' => exact .inr (.inl ⟨sender, nonce, rfl, hb.1, hb.2, rfl, rfl, h5, rfl, rfl⟩)
      · rw [if_neg hb]
        split <;> exact .inl rfl

theorem addRawTx_fst_of_ne_ok {n : Node} {ts : Nat} {hash0 : String} {idx : Nat} {txid : String} {dec : RawDecode}
    {evs : List Ev} (hne : (n.addRawTx ts hash0 idx txid dec evs).2 ≠ .ok) :
    (n.addRawTx ts hash0 idx txid dec evs).1 = n := by
  rcases addRawTx_cases n ts hash0 idx txid dec evs with e | ⟨_, _, _, _, _, _, _, _, _, hok⟩ | ⟨_, _, _, hok, e⟩
  · exact e
  · exact absurd hok hne
  · rw [e] at hne; exact absurd hok hne

theorem commit_of_waiting {n : Node} (hw : n.lbi.waiting ≠ 0) : n.commit = (n, .err "waiting") := if_pos hw

theorem commit_of_boundary {n : Node} (hw : n.lbi.waiting = 0) : n.commit = (n.commitAll, .ok) :=
  if_neg (fun h => h hw)

theorem mine_cases (n : Node) (count ts : Nat) (evs : List Ev) :
    n.mine count ts evs = (n, .err "waiting") ∨ n.mine count ts evs = (n, .err "exists") ∨
    (n.lbi.waiting = 0 ∧ n.mineClash count = false ∧ n.mine count ts evs = mineLoop n ts evs count) := by
  unfold mine
  by_cases hw : n.lbi.waiting ≠ 0
  · exact .inl (if_pos hw)
  · rw [if_neg hw]
    cases hc : n.mineClash count with
    | true => exact .inr (.inl rfl)
    | false => exact .inr (.inr ⟨Decidable.not_not.mp hw, rfl, rfl⟩)

theorem mineLoop_succ (n : Node) (ts : Nat) (evs : List Ev) (k : Nat) :
    mineLoop n ts evs (k + 1) =
      if (n.finaliseOne ts zeroHash 0 (evs.filter (fun e => stampOf e == some n.nextHeight))).2 = .ok
      then mineLoop (n.finaliseOne ts zeroHash 0 (evs.filter (fun e => stampOf e == some n.nextHeight))).1 ts evs k
      else n.finaliseOne ts zeroHash 0 (evs.filter (fun e => stampOf e == some n.nextHeight)) := by
  simp only [mineLoop]
  cases n.finaliseOne ts zeroHash 0 (evs.filter (fun e => stampOf e == some n.nextHeight)) with
  | mk n' c => cases c <;> simp

theorem mineLoop_ok_last {n : Node} {ts : Nat} {evs : List Ev} {k : Nat} (hok : (mineLoop n ts evs (k + 1)).2 = .ok) :
    ∃ (m : Node) (fevs : List Ev), (m.finaliseOne ts zeroHash 0 fevs).2 = .ok ∧
      (mineLoop n ts evs (k + 1)).1 = (m.finaliseOne ts zeroHash 0 fevs).1 := by
  induction k generalizing n with
  | zero =>
    rw [mineLoop_succ] at hok ⊢
    split at hok
    · rename_i h; rw [if_pos h]; exact ⟨n, _, h, rfl⟩
    · rename_i h; exact absurd hok h
  | succ k ih =>
    rw [mineLoop_succ] at hok ⊢
    split at hok
    · rename_i h; rw [if_pos h]; exact ih hok
    · rename_i h; exact absurd hok h

/-- the writes of `initialise` that belong to the finalise of the genesis block: the local `isFin` of
`Node.initialise`, which has to have a name for `initialise_eq` to be stated -/
def isFinEv (e : Ev) : Bool :=
  match e with
  | .s tb _ _ _ => (BId.ofName tb).isSome || tb == TId.hashToNumber.name
  | _ => false

theorem initialise_eq (n : Node) (hash0 : String) (ts height : Nat) (evs : List Ev) :
    n.initialise hash0 ts height evs =
      match (n.b .block).get height with
      | some _ => if n.blockHashAt height = some (normHash hash0 height) then (n, .ok) else (n, .err "genesis")
      | none =>
        if height ≠ n.nextHeight then (n, .err "height")
        else
          match addTxs n ts (normHash hash0 height) 0 (some zeroHash) (evs.filter (fun e => !isFinEv e)) (some 1) with
          | (n1, .ok) => Node.finaliseOne n1 ts (normHash hash0 height) 1 (evs.filter isFinEv)
          | (n1, c) => (n1, c) := by
  rfl

theorem initialise_cases (n : Node) (hash0 : String) (ts height : Nat) (evs : List Ev) :
    (n.initialise hash0 ts height evs).1 = n ∨
    (height = n.nextHeight ∧
      (n.addTxs ts (normHash hash0 height) 0 (some zeroHash) (evs.filter (fun e => !isFinEv e)) (some 1)).2 = .ok ∧
      n.initialise hash0 ts height evs =
        (n.addTxs ts (normHash hash0 height) 0 (some zeroHash) (evs.filter (fun e => !isFinEv e)) (some 1)).1.finaliseOne
          ts (normHash hash0 height) 1 (evs.filter isFinEv)) := by
  rw [initialise_eq]
  cases (n.b .block).get height with
  | some _ => left; simp only []; split <;> rfl
  | none =>
    simp only []
    by_cases hh : height ≠ n.nextHeight
    · left; rw [if_pos hh]
    · rw [if_neg hh]
      generalize hr : n.addTxs ts (normHash hash0 height) 0 (some zeroHash) (evs.filter (fun e => !isFinEv e)) (some 1) = r
      have hne : r.2 ≠ .ok → r.1 = n := hr ▸ addTxs_fst_of_ne_ok
      obtain ⟨n1, c⟩ := r
      cases c with
      | ok => exact .inr ⟨Decidable.not_not.mp hh, rfl, rfl⟩
      | err | panic | reject => exact .inl (hne nofun)

end Node
end Brc20
