/-
The nonce bookkeeping of a multi-call simulation (Model/Sim.lean) against its plain statement `roundNonces`, for C17.
`NoncesInv`: every entry of the round's `nonces` map, read through `nonceEntry`, is the account nonce plus the number
of calls of the round made so far by that caller; one call's bump keeps it.  From it: the map-based loop hands out
`roundNonces` (`roundNoncesImpl_eq`), and the model's check of one complete round is the conjunction of the per-call
environment checks against `roundNonces` (`multiCheckAux_round`).
-/
import Brc20.Model.Sim
import Brc20.Proofs.AMap

namespace Brc20
namespace Node

def NoncesInv (acct : String → Nat) (m : AMap String Nat) (seen : List String) : Prop :=
  ∀ c, nonceEntry acct m c = acct c + seen.count c

theorem noncesInv_empty (acct : String → Nat) : NoncesInv acct [] [] := by
  intro c; simp [nonceEntry]

theorem nonceEntry_insert (acct : String → Nat) (m : AMap String Nat) (c : String) (v : Nat) (c' : String) :
    nonceEntry acct (m.insert c v) c' = if c' = c then v else nonceEntry acct m c' := by
  unfold nonceEntry
  rw [AMap.get?_insert]
  by_cases e : c' = c
  · simp only [e, if_true]
  · simp only [e, if_false]

theorem noncesInv_step {acct : String → Nat} {m : AMap String Nat} {seen : List String}
    (h : NoncesInv acct m seen) (c : String) :
    NoncesInv acct (m.insert c (nonceEntry acct m c + 1)) (c :: seen) := by
  intro c'
  rw [nonceEntry_insert, List.count_cons, h c, h c']
  by_cases e : c' = c
  · subst e
    simp only [if_true, beq_self_eq_true, Nat.add_assoc]
  · simp only [e, if_false, beq_eq_false_iff_ne.mpr (Ne.symm e), Bool.false_eq_true, Nat.add_zero]

theorem roundNoncesImpl_eq (acct : String → Nat) (cs : List String) :
    ∀ (m : AMap String Nat) (seen : List String), NoncesInv acct m seen →
      roundNoncesImpl acct m cs = roundNonces acct seen cs := by
  induction cs with
  | nil => intro m seen _; rfl
  | cons c cs ih =>
    intro m seen h
    simp only [roundNoncesImpl, roundNonces]
    rw [ih _ _ (noncesInv_step h c), h c]

/-- One complete round: no run refused by revm, at most `ncalls` runs left in the round. -/
theorem multiCheckAux_round (n : Node) (ncalls : Nat) (runs : List (List (String × String) × Bool)) :
    ∀ (m : AMap String Nat) (k : Nat) (seen : List String),
      NoncesInv n.accountNonce m seen → (∀ r ∈ runs, r.2 = true) → k + runs.length ≤ ncalls →
      multiCheckAux n ncalls m k runs =
        ((runs.map (·.1)).zip (roundNonces n.accountNonce seen (runs.map (fun r => field r.1 "caller")))).all
          (fun p => simMultiEnvOk n p.1 p.2) := by
  induction runs with
  | nil => intro m k seen _ _ _; rfl
  | cons r rest ih =>
    intro m k seen h hok hlen
    obtain ⟨fs, okRun⟩ := r
    have hr : okRun = true := hok (fs, okRun) (List.mem_cons_self ..)
    subst hr
    simp only [List.length_cons] at hlen
    simp only [multiCheckAux, List.map_cons, roundNonces, List.zip_cons_cons, List.all_cons, h (field fs "caller")]
    congr 1
    by_cases hk : k + 1 < ncalls
    · simp only [hk, decide_true, Bool.and_self, if_true]
      have := ih (m.insert (field fs "caller") (nonceEntry n.accountNonce m (field fs "caller") + 1)) (k + 1)
        (field fs "caller" :: seen) (noncesInv_step h _) (fun r hr => hok r (List.mem_cons_of_mem _ hr)) (by omega)
      rw [h (field fs "caller")] at this
      exact this
    · have : rest = [] := List.eq_nil_of_length_eq_zero (by omega)
      subst this
      simp [hk, multiCheckAux]

end Node
end Brc20
