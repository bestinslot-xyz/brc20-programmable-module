/-
The calls of the engine as one type (`Op`), the plain logs they advance (`Op.ghost`), reachable nodes
(`Reach`, `ReachG`), and what every call is made of: a call that is not a commit point is a chain of accepted
transactions, parked submissions, finalised blocks and clears (`Op.steps`). Whatever is preserved by these four
steps - and by `commit` and `reorg` - holds of every reachable node. (`clear`, one of the four, drops every cached row
and version: what is stated of all calls is about what survives it, or about the `.clear` view.)
-/
import Brc20.Proofs.Events
import Brc20.Proofs.Node
import Brc20.Proofs.NodeSim

namespace Brc20
namespace Node
open BlockDb (nextOf)

/-! ## The plain logs a call advances

The plain logs advance by the recorded events of exactly those parts of a call that the model accepts (at a commit
point: by `Ghost.commit` / `Ghost.reorg`). Each `g*` function follows the control flow of the model function of the
same name to say which parts those are; `Op.ghost` below puts them together. -/

def gAddTxs (n : Node) (G : Ghost) (ts : Nat) (hash0 : String) (idx : Nat) (txid : Option String) (evs : List Ev)
    (k : Option Nat) : Ghost :=
  if (n.addTxs ts hash0 idx txid evs k).2 = .ok then G.events evs else G

def gFinaliseOne (n : Node) (G : Ghost) (ts : Nat) (hash0 : String) (count : Nat) (evs : List Ev) : Ghost :=
  if (n.finaliseOne ts hash0 count evs).2 = .ok then G.events evs else G

def gMineLoop (n : Node) (G : Ghost) (ts : Nat) (evs : List Ev) : Nat → Ghost
  | 0 => G
  | k + 1 =>
    let mine := evs.filter (fun e => stampOf e == some n.nextHeight)
    match finaliseOne n ts zeroHash 0 mine with
    | (n', .ok) => gMineLoop n' (G.events mine) ts evs k
    | _ => G

def gMine (n : Node) (G : Ghost) (count ts : Nat) (evs : List Ev) : Ghost :=
  if n.lbi.waiting ≠ 0 then G else if n.mineClash count then G else gMineLoop n G ts evs count

def gAddRawTx (n : Node) (G : Ghost) (ts : Nat) (hash0 : String) (idx : Nat) (txid : String) (dec : RawDecode)
    (evs : List Ev) : Ghost :=
  match dec with
  | .fail => G
  | .wrongChain => G
  | .ok sender nonce =>
    let acct := n.accountNonce sender
    if nonce ≠ acct then
      if nonce > acct ∧ nonce < acct + FUTURE_NONCES then
        if !(txRuns evs).isEmpty then G
        else if !poolOnly evs then G
        else if !parkedShape sender nonce n.nextHeight evs then G
        else match applyEvents n n.nextHeight evs with
          | none => G
          | some _ => G.events evs
      else G
    else
      -- executed: the logs advance when `addTxs` and the drain check both accept
      if (drainCheck n sender (acct + 1) (drainPlan n sender n.nextHeight FUTURE_NONCES (acct + 1)).2
          (n.addTxs ts hash0 idx (some txid) evs
            (some (1 + (drainPlan n sender n.nextHeight FUTURE_NONCES (acct + 1)).1)))).2 = .ok
      then G.events evs else G

def gCommit (n : Node) (G : Ghost) : Ghost := if n.lbi.waiting ≠ 0 then G else G.commit n.nextHeight

def gReorg (n : Node) (G : Ghost) (target : Nat) : Ghost :=
  if (n.reorg target).2 = .ok then G.reorg target (reorgNb n target) else G

def gInitialise (n : Node) (G : Ghost) (hash0 : String) (ts height : Nat) (evs : List Ev) : Ghost :=
  match (n.b .block).get height with
  | some _ => G
  | none =>
    if height ≠ n.nextHeight then G
    else
      match Node.addTxs n ts (normHash hash0 height) 0 (some zeroHash) (evs.filter (fun e => !isFinEv e)) (some 1) with
      | (n1, .ok) =>
        gFinaliseOne n1 (G.events (evs.filter (fun e => !isFinEv e))) ts (normHash hash0 height) 1 (evs.filter isFinEv)
      | _ => G

/-- One call of the engine: the operation, its arguments, and the events recorded while it ran. -/
inductive Op where
  | initialise (hash0 : String) (ts height : Nat) (evs : List Ev)
  | mine (count ts : Nat) (evs : List Ev)
  | addTxs (ts : Nat) (hash0 : String) (idx : Nat) (txid : Option String) (evs : List Ev) (expectRuns : Option Nat)
  | addRawTx (ts : Nat) (hash0 : String) (idx : Nat) (txid : String) (dec : RawDecode) (evs : List Ev)
  | finaliseOne (ts : Nat) (hash0 : String) (count : Nat) (evs : List Ev)
  | commit
  | clear
  | reopen
  | reorg (target : Nat)

def Op.run : Op → Node → Node × Class
  | .initialise hash0 ts height evs, n => n.initialise hash0 ts height evs
  | .mine count ts evs, n => n.mine count ts evs
  | .addTxs ts hash0 idx txid evs k, n => n.addTxs ts hash0 idx txid evs k
  | .addRawTx ts hash0 idx txid dec evs, n => n.addRawTx ts hash0 idx txid dec evs
  | .finaliseOne ts hash0 count evs, n => n.finaliseOne ts hash0 count evs
  | .commit, n => n.commit
  | .clear, n => n.clear
  | .reopen, n => (n.reopen, .ok)
  | .reorg target, n => n.reorg target

def Op.ghost : Op → Node → Ghost → Ghost
  | .initialise hash0 ts height evs, n, G => gInitialise n G hash0 ts height evs
  | .mine count ts evs, n, G => gMine n G count ts evs
  | .addTxs ts hash0 idx txid evs k, n, G => gAddTxs n G ts hash0 idx txid evs k
  | .addRawTx ts hash0 idx txid dec evs, n, G => gAddRawTx n G ts hash0 idx txid dec evs
  | .finaliseOne ts hash0 count evs, n, G => gFinaliseOne n G ts hash0 count evs
  | .commit, n, G => gCommit n G
  | .clear, _, G => G.clear
  | .reopen, _, G => G.clear
  | .reorg target, n, G => gReorg n G target

/-- the run goes on after `ok` and after an error answer; a panic or a model reject ends it -/
def _root_.Brc20.Node.Class.accepted : Class → Prop
  | .ok => True
  | .err _ => True
  | .panic => False
  | .reject _ => False

theorem _root_.Brc20.Node.Class.accepted_iff (c : Class) : c.accepted ↔ c = .ok ∨ ∃ e, c = .err e := by
  cases c <;> simp [Class.accepted]

/-- **Reachable nodes**: the empty node, and whatever any operation with any arguments and any recorded events
turns a reachable node into, as long as the model answers `ok` or `err`. -/
inductive Reach : Node → Prop
  | init : Reach {}
  | step {n : Node} (op : Op) : Reach n → (op.run n).2.accepted → Reach (op.run n).1

/-- The one thing a run must not do for its logs to stay the plain logs: roll back (successfully) below the
window of a pending-pool table. By `RInv.window` the engine's own acceptance test guarantees this for every other
table; for the pool tables it fails exactly in the situation of known finding F10 (a transaction parked at a block
boundary is stamped `height + 1`, so the pool tables' window starts one block later than the engine assumes). -/
def Op.inWindow : Op → Node → Ghost → Prop
  | .reorg target, n, G => ¬ Refused n target → ∀ i, i ∈ poolTables → (G.s i).maxEver ≤ target + W
  | _, _, _ => True

/-- Reachable nodes together with the plain logs of their tables. -/
inductive ReachG : Node → Ghost → Prop
  | init : ReachG {} Ghost.init
  | step {n : Node} {G : Ghost} (op : Op) :
      ReachG n G → (op.run n).2.accepted → op.inWindow n G → ReachG (op.run n).1 (op.ghost n G)

/-- the calls that are commit points: `commit` and `reorg` (which ends with a commit) -/
def Op.isCommitPoint : Op → Bool
  | .commit => true
  | .reorg _ => true
  | _ => false

/-! ## What a call is made of -/

/-- The four things a call that is not a commit point does to a node and its plain logs. -/
inductive Prim : Node → Ghost → Node → Ghost → Prop
  | tx {n n' : Node} {G : Ghost} {ts : Nat} {hash : String} {txid : Option String} {evs : List Ev} {k : Option Nat}
      (a : TxAccepted n ts hash txid evs k n') :
      Prim n G { n' with lbi := bumpLbi (startLbi n ts hash) (txRuns evs) } (G.events evs)
  | parked {n n' : Node} {G : Ghost} {sender : String} {nonce : Nat} {evs : List Ev}
      (hlo : n.accountNonce sender < nonce) (hhi : nonce < n.accountNonce sender + FUTURE_NONCES)
      (hr : (txRuns evs).isEmpty = true) (hp : poolOnly evs = true)
      (hs : parkedShape sender nonce n.nextHeight evs = true) (ha : applyEvents n n.nextHeight evs = some n') :
      Prim n G n' (G.events evs)
  | fin {n n' : Node} {G : Ghost} {hash : String} {evs : List Ev} (f : FinAccepted n hash evs n') :
      Prim n G (finalised n' n.nextHeight hash) (G.events evs)
  | clear {n : Node} {G : Ghost} : Prim n G (n.clear).1 G.clear

inductive Steps : Node → Ghost → Node → Ghost → Prop
  | refl {n : Node} {G : Ghost} : Steps n G n G
  | head {a b c : Node} {A B C : Ghost} : Prim a A b B → Steps b B c C → Steps a A c C

theorem Steps.single {a b : Node} {A B : Ghost} (h : Prim a A b B) : Steps a A b B := .head h .refl

theorem Steps.ind {I : Node → Ghost → Prop} {a b : Node} {A B : Ghost} (s : Steps a A b B)
    (hp : ∀ {a b A B}, Prim a A b B → I a A → I b B) (h : I a A) : I b B := by
  induction s with
  | refl => exact h
  | head p _ ih => exact ih (hp p h)

theorem Steps.trans {a b c : Node} {A B C : Ghost} (h1 : Steps a A b B) (h2 : Steps b B c C) : Steps a A c C := by
  induction h1 with
  | refl => exact h2
  | head p _ ih => exact .head p (ih h2)

theorem addTxs_steps (n : Node) (G : Ghost) (ts : Nat) (hash0 : String) (idx : Nat) (txid : Option String)
    (evs : List Ev) (k : Option Nat) :
    Steps n G (n.addTxs ts hash0 idx txid evs k).1 (gAddTxs n G ts hash0 idx txid evs k) := by
  unfold gAddTxs
  by_cases hok : (n.addTxs ts hash0 idx txid evs k).2 = .ok
  · obtain ⟨_, n', a, hn⟩ := addTxs_accepted hok
    rw [if_pos hok, hn]; exact .single (.tx a)
  · rw [if_neg hok, addTxs_fst_of_ne_ok hok]; exact .refl

theorem finaliseOne_steps (n : Node) (G : Ghost) (ts : Nat) (hash0 : String) (count : Nat) (evs : List Ev) :
    Steps n G (n.finaliseOne ts hash0 count evs).1 (gFinaliseOne n G ts hash0 count evs) := by
  unfold gFinaliseOne
  by_cases hok : (n.finaliseOne ts hash0 count evs).2 = .ok
  · obtain ⟨_, n', f, hn⟩ := finaliseOne_accepted hok
    rw [if_pos hok, hn]; exact .single (.fin f)
  · rw [if_neg hok, finaliseOne_fst_of_ne_ok hok]; exact .refl

theorem mineLoop_steps (n : Node) (G : Ghost) (ts : Nat) (evs : List Ev) (k : Nat) :
    Steps n G (mineLoop n ts evs k).1 (gMineLoop n G ts evs k) := by
  induction k generalizing n G with
  | zero => exact .refl
  | succ k ih =>
    have hf := finaliseOne_steps n G ts zeroHash 0 (evs.filter (fun e => stampOf e == some n.nextHeight))
    unfold gFinaliseOne at hf
    simp only [mineLoop, gMineLoop]
    cases hr : finaliseOne n ts zeroHash 0 (evs.filter (fun e => stampOf e == some n.nextHeight)) with
    | mk n' c =>
      rw [hr] at hf
      cases c with
      | ok => exact Steps.trans hf (ih n' _)
      | err | panic | reject => exact hf

theorem addRawTx_steps (n : Node) (G : Ghost) (ts : Nat) (hash0 : String) (idx : Nat) (txid : String)
    (dec : RawDecode) (evs : List Ev) :
    Steps n G (n.addRawTx ts hash0 idx txid dec evs).1 (gAddRawTx n G ts hash0 idx txid dec evs) := by
  unfold addRawTx gAddRawTx
  cases dec with
  | fail => exact .refl
  | wrongChain => simp only []; split <;> exact .refl
  | ok sender nonce =>
    simp only []
    split
    · split
      · split
        · exact .refl
        split
        · exact .refl
        split
        · exact .refl
        rename_i hn hr hp hs
        cases ha : applyEvents n n.nextHeight evs with
        | none => exact .refl
        | some n' =>
          exact .single (.parked hn.1 hn.2 (by simpa using hr) (by simpa using hp) (by simpa using hs) ha)
      · split <;> exact .refl
    · have ha := addTxs_steps n G ts hash0 idx (some txid) evs
        (some (1 + (drainPlan n sender n.nextHeight FUTURE_NONCES (n.accountNonce sender + 1)).1))
      unfold gAddTxs at ha
      split
      · rename_i hok
        obtain ⟨h1, h2, _⟩ := drainCheck_ok hok
        rw [h2]; rw [if_pos h1] at ha; exact ha
      · rename_i hok
        rw [drainCheck_fst_of_ne_ok addTxs_fst_of_ne_ok hok]; exact .refl

theorem initialise_steps (n : Node) (G : Ghost) (hash0 : String) (ts height : Nat) (evs : List Ev) :
    Steps n G (n.initialise hash0 ts height evs).1 (gInitialise n G hash0 ts height evs) := by
  rw [initialise_eq]
  unfold gInitialise
  cases (n.b .block).get height with
  | some _ => simp only []; split <;> exact .refl
  | none =>
    simp only []
    split
    · exact .refl
    · have ha := addTxs_steps n G ts (normHash hash0 height) 0 (some zeroHash) (evs.filter (fun e => !isFinEv e)) (some 1)
      unfold gAddTxs at ha
      cases hr : addTxs n ts (normHash hash0 height) 0 (some zeroHash) (evs.filter (fun e => !isFinEv e)) (some 1) with
      | mk n1 c =>
        rw [hr] at ha
        cases c with
        | ok => exact Steps.trans ha (finaliseOne_steps n1 _ _ _ _ _)
        | err | panic | reject => exact ha

/-- A refused or rejected call, or part of one, is the empty chain. -/
theorem Op.steps (op : Op) (hop : op.isCommitPoint = false) (n : Node) (G : Ghost) :
    Steps n G (op.run n).1 (op.ghost n G) := by
  cases op with
  | commit => cases hop
  | reorg target => cases hop
  | clear => exact .single .clear
  | reopen => exact .single .clear
  | addTxs ts hash0 idx txid evs k => exact addTxs_steps n G ts hash0 idx txid evs k
  | finaliseOne ts hash0 count evs => exact finaliseOne_steps n G ts hash0 count evs
  | addRawTx ts hash0 idx txid dec evs => exact addRawTx_steps n G ts hash0 idx txid dec evs
  | initialise hash0 ts height evs => exact initialise_steps n G hash0 ts height evs
  | mine count ts evs =>
    show Steps n G (n.mine count ts evs).1 (gMine n G count ts evs)
    unfold Node.mine gMine
    split
    · exact .refl
    · split
      · exact .refl
      · exact mineLoop_steps n G ts evs count

/-- For what speaks of the node alone (`prim` mentions logs only because `Prim` carries them). -/
theorem Op.run_ind {I : Node → Prop} (prim : ∀ {n n' : Node} {G G' : Ghost}, Prim n G n' G' → I n → I n')
    (commit : ∀ {n : Node}, n.lbi.waiting = 0 → I n → I n.commitAll)
    (reorg : ∀ {n : Node} (target : Nat), (n.reorg target).2 = .ok → I n → I (n.reorg target).1)
    (op : Op) {n : Node} (h : I n) : I (op.run n).1 := by
  cases op with
  | commit =>
    show I n.commit.1
    by_cases hw : n.lbi.waiting = 0
    · rw [commit_of_boundary hw]; exact commit hw h
    · rw [commit_of_waiting hw]; exact h
  | reorg target =>
    show I (n.reorg target).1
    by_cases hok : (n.reorg target).2 = .ok
    · exact reorg target hok h
    · rw [reorg_fst_of_ne_ok hok]; exact h
  | _ => exact (Op.steps _ rfl n Ghost.init).ind (I := fun n _ => I n) prim h

end Node
end Brc20
