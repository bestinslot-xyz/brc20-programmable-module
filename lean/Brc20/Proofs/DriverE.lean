/-
The line-protocol driver (`Brc20.Model.DriverE`): what `stepCore` reads off a protocol line, `stepCore` on the lines
that append one transaction, in those terms, and the run of a history (`DriverE.run`) that the whole-history theorems
of C05 and C10 speak of.
-/
import Brc20.Model.DriverE

namespace Brc20
open Node

/-- the operation word of a protocol line, as `DriverE.stepCore` reads it -/
def DriverE.opOf (line : String) : String :=
  ((((line.splitOn " ## ").headD "").trimAscii.toString.splitOn " ").filter (· ≠ "")).headD ""

/-- the value a protocol line carries under key `k`, as `DriverE.stepCore` reads it -/
def DriverE.argOf (line k : String) : String :=
  field (DriverE.kvs ((((line.splitOn " ## ").headD "").trimAscii.toString.splitOn " ").filter (· ≠ ""))) k

/-- the number a protocol line carries under the key `k`, as `DriverE.stepCore` reads it -/
def DriverE.numArg (line k : String) : Nat :=
  (field (DriverE.kvs ((((line.splitOn " ## ").headD "").trimAscii.toString.splitOn " ").filter (· ≠ ""))) k).toNat!

/-- the recorded events of a protocol line, as `DriverE.stepCore` parses them -/
def DriverE.eventsOf (line : String) : List Node.Ev := ((line.splitOn " ## ").drop 1).map DriverE.parseEv

/-- `stepCore` on a single-transaction line (`deploy`, `call`, `deposit`, `withdraw`). The four words share one arm of
`stepCore`, which is compiled into four copies: going through this equation meets the arm once. -/
theorem DriverE.stepCore_tx (n : Node) (line : String)
    (hop : DriverE.opOf line = "deploy" ∨ DriverE.opOf line = "call" ∨ DriverE.opOf line = "deposit" ∨
      DriverE.opOf line = "withdraw") :
    DriverE.stepCore n line =
      let dataFirst := DriverE.opOf line == "deploy" || DriverE.opOf line == "call"
      if dataFirst && (DriverE.argOf line "sel" == "both" || DriverE.argOf line "sel" == "none") then
        (n, .inl (.err "data"))
      else if DriverE.argOf line "pkok" == "false" then (n, .inl (.err "param"))
      else if !(n.failedTxOk (DriverE.eventsOf line)) then (n, .inl (.reject "failed-tx-wrote-state"))
      else
        let r := n.addTxs (DriverE.numArg line "ts") (DriverE.strip0x (DriverE.argOf line "hash"))
          (DriverE.numArg line "idx")
          (if dataFirst then some (DriverE.strip0x (DriverE.argOf line "txid")) else some zeroHash)
          (DriverE.eventsOf line) (some 1)
        (r.1, .inl r.2) := by
  unfold DriverE.opOf at hop
  unfold DriverE.stepCore DriverE.opOf DriverE.argOf DriverE.numArg DriverE.eventsOf
  rcases hop with h | h | h | h <;> simp only [h] <;> rfl

/-! `DriverE.step` is the model's transition function on protocol lines: the function the compiled driver folds over its
input, and the one whose answers are compared with the real engine line by line. `DriverE.run` is that fold. -/

def DriverE.isRead (line : String) : Bool := DriverE.opOf line == "read" || DriverE.opOf line == "logsq"

/-- run a history: final node and the answers, in order -/
def DriverE.run : Node → List String → Node × List String
  | n, [] => (n, [])
  | n, l :: ls =>
    let r := DriverE.step n l
    let rest := DriverE.run r.1 ls
    (rest.1, r.2 :: rest.2)

/-- answers of the non-read lines of a history, in order -/
def DriverE.writeAnswers : Node → List String → List String
  | _, [] => []
  | n, l :: ls =>
    let r := DriverE.step n l
    if DriverE.isRead l then DriverE.writeAnswers r.1 ls else r.2 :: DriverE.writeAnswers r.1 ls

end Brc20
