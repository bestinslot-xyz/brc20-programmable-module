/-
Crash in the middle of a table commit: any prefix of the persistent writes followed by a reopen is repaired exactly by
a rollback to a height at or below the last completed commit (and inside the window).

`commit` writes, for a cached key whose history is *kept*, the history row and then the value row; for a key whose
history is *old* (to be dropped), the value row first and the deletion of the history row last (`Table.keyWrites`).
With that order every prefix of the writes leaves, for every key, the retrievable history it had before the commit or
the one the completed commit leaves (`disk_crashCommit`), and both say at a durable target `n` what the plain
specification says.  The value row of an old key is rewritten before its history row is deleted because a crash
between the two must leave something to repair from: the history row still on disk makes a later `reorg` visit the key
and rewrite both rows, whereas a deleted history row beside a stale value row would leave the stale value for good.
-/
import Brc20.Proofs.Table
import Brc20.Proofs.TableScan
import Brc20.Proofs.CrashLemmas
set_option linter.unusedSectionVars false

namespace Brc20.Table
variable {K V : Type} [DecidableEq K] [DecidableEq V]
open Hist

/-- `i` is the number of writes of `commit b` that reached the disk before the reopen (any number).  The target `n` is
*durable* (`hdur`): nothing written since the last completed commit is visible at `n`. -/
theorem crash_recoverable_of_sim {W : Nat} {t : Table K V} {s : TSpec K V} (h : Sim W t s) (b i n : Nat)
    (hw : s.maxEver ≤ n + W) (hb : b ≤ n + W + 1)
    (hdur : ∀ k, (s.cur k).valAt n = (s.dur k).valAt n) :
    ∃ t', (t.crashCommit W b i).reorg W n = some t' ∧ ∀ k, t'.latest k = s.readAt k n := by
  have h' := sim_commit h b
  refine crash_reorg_reads h.inv.cache_nodup _ (fun k => ⟨(disk_ok h.inv k).1.sorted, ?_⟩)
    (fun k => ⟨(disk_ok h'.inv k).1.sorted, ?_⟩) i
  · rw [h.dur_eq k n hw, ← hdur k, valAt_cur_readAt h]
  · rw [h'.dur_eq k n (by show max _ _ ≤ _; omega)]; exact valAt_cur_readAt h k n

set_option linter.unusedVariables false in
/-- `crash_recoverable_of_sim` under three further hypotheses, none of which it needs: the columns are maps, the cache is
ahead of the disk (`CacheAhead`, an invariant of the API: `cacheAhead_run`), and `n ≤ maxEver`. -/
theorem crash_recoverable {W : Nat} {t : Table K V} {s : TSpec K V} (h : Sim W t s) (hc : ColsNodup t)
    (ha : CacheAhead t) (b i n : Nat)
    (hw : s.maxEver ≤ n + W) (hn : n ≤ s.maxEver) (hb : b ≤ n + W + 1)
    (hdur : ∀ k, (s.cur k).valAt n = (s.dur k).valAt n) :
    ∃ t', (t.crashCommit W b i).reorg W n = some t' ∧ ∀ k, t'.latest k = s.readAt k n :=
  crash_recoverable_of_sim h b i n hw hb hdur

/-- A crash inside the commit that ends a `reorg m`; `tl` is the loaded table (after the in-memory truncation).  A key
caught between its two writes still has on disk the history persisted *before* the `reorg`, which by `dur_eq` and
durability of `n` says the right thing at `n`. -/
theorem crash_in_reorg_recoverable_of_sim {W : Nat} {t : Table K V} {s : TSpec K V} (h : Sim W t s)
    (m n : Nat) (hnm : n ≤ m) (hmW : m ≤ n + W + 1) (hw : s.maxEver ≤ n + W)
    (hdur : ∀ k, (s.cur k).valAt n = (s.dur k).valAt n) :
    ∃ tl, t.reorgLoad m t.reorgKeys = some tl ∧
      ∀ i, ∃ t', (tl.crashCommit W m i).reorg W n = some t' ∧ ∀ k, t'.latest k = s.readAt k n := by
  -- `tl` has the columns of `t`, and its commit is the table `reorg m` returns
  obtain ⟨t', e, h'⟩ := sim_reorg h m (by omega)
  obtain ⟨tl, hl, e'⟩ := reorg_eq_some_iff.mp e
  have hsp := reorgLoad_spec m t.reorgKeys t
  rw [hl] at hsp
  obtain ⟨e1, e2, nd1, _⟩ := hsp
  have hd : ∀ k, disk tl k = disk t k := fun k => disk_congr (by rw [e2]) (by rw [e1])
  refine ⟨tl, hl, crash_reorg_reads (nd1 h.inv.cache_nodup) _ (fun k => ?_) (fun k => ?_)⟩
  · rw [hd, h.dur_eq k n hw, ← hdur k, valAt_cur_readAt h]
    exact ⟨(disk_ok h.inv k).1.sorted, rfl⟩
  · rw [e', h'.dur_eq k n (by show max _ _ ≤ _; omega)]
    refine ⟨(disk_ok h'.inv k).1.sorted, ?_⟩
    show valAt (cut m (s.cur k)) n = _
    rw [valAt_cut (h.cur_ok k).1.sorted, Nat.min_eq_left hnm, valAt_cur_readAt h]

set_option linter.unusedVariables false in
/-- `crash_in_reorg_recoverable_of_sim` for an `m` inside the window and not above `maxEver`, under two further
hypotheses it does not need: the columns are maps, and the crash falls *between* the write pairs of two keys (`i` even). -/
theorem crash_in_reorg_recoverable_even {W : Nat} {t : Table K V} {s : TSpec K V} (h : Sim W t s) (hc : ColsNodup t)
    (m i n : Nat) (hm : s.maxEver ≤ m + W) (hm' : m ≤ s.maxEver) (hnm : n ≤ m)
    (hw : s.maxEver ≤ n + W)
    (hdur : ∀ k, (s.cur k).valAt n = (s.dur k).valAt n) (tl : Table K V)
    (hl : t.reorgLoad m t.reorgKeys = some tl) (hi : i % 2 = 0) :
    ∃ t', (tl.crashCommit W m i).reorg W n = some t' ∧ ∀ k, t'.latest k = s.readAt k n := by
  obtain ⟨tl', hl', hr⟩ := crash_in_reorg_recoverable_of_sim h m n hnm (by omega) hw hdur
  cases hl.symm.trans hl'
  exact hr i

theorem crash_after_last_write {W : Nat} {t : Table K V} (b i : Nat) (hi : (t.commitWrites W b).length ≤ i) :
    t.crashCommit W b i = (t.commit W b).reopen := by
  unfold crashCommit commit reopen
  rw [List.take_of_length_le hi]
  rfl

/-! ## A crash between the two writes of an old key inside `reorg`: the scenario

`W = 10`, one key `0`.  History `set 5 0 1; commit 6; set 17 0 2; commit 18` (legal; `maxEver = 17`).  `reorg 16`
loads key 0 and truncates its history `[(5,1),(17,2)]` to `[(5,1)]`, which is old at 16 (`5 + 10 < 16`): the
commit first rewrites the value row to `1`, then deletes the history row.  A crash between the two (`i = 1`) and a
reopen leave `db = [(0,1)]`, `cdb = [(0,[(5,1),(17,2)])]`: the history row is still there, so `reorg 16` on the
reopened table visits key 0 again, and key 0 reads `1` - the value the plain map has at block 16.  The same holds
for every crash index `i`. -/

def cexOps : List (TOp Nat Nat) := [.set 5 0 1, .commit 6, .set 17 0 2, .commit 18]

theorem cexOps_legal : TSpec.legalRun 10 (TSpec.init : TSpec Nat Nat) cexOps := by
  simp [cexOps, TSpec.legalRun, TSpec.legal, TSpec.step, TSpec.init]

/-- The table `reorg 16` has loaded (key 0 truncated to `[(5,1)]`), before its commit. -/
def cexLoaded : Table Nat Nat :=
  { db := [(0, 2)], cdb := [(0, [(5, some 1), (17, some 2)])], cache := [(0, [(5, some 1)])] }

theorem crash_in_reorg_scenario_recovers :
    ∃ (t tl : Table Nat Nat) (s : TSpec Nat Nat), s = TSpec.init.run cexOps ∧
      Table.empty.run 10 cexOps = some t ∧ Sim 10 t s ∧ ColsNodup t ∧
      s.maxEver ≤ 16 + 10 ∧ 16 ≤ s.maxEver ∧ (∀ k, (s.cur k).valAt 16 = (s.dur k).valAt 16) ∧
      t.reorgLoad 16 t.reorgKeys = some tl ∧
      -- the state on disk after the crash: value row rewritten, history row still there
      tl.crashCommit 10 16 1 = { db := [(0, 1)], cdb := [(0, [(5, some 1), (17, some 2)])], cache := [] } ∧
      ((tl.crashCommit 10 16 1).reorg 10 16).map (fun t' => t'.latest 0) = some (some 1) ∧
      (∀ i, ((tl.crashCommit 10 16 i).reorg 10 16).map (fun t' => t'.latest 0) = some (some 1)) ∧
      s.readAt 0 16 = some 1 := by
  obtain ⟨t, e, hs⟩ := run_sim (sim_init 10) cexOps cexOps_legal
  have et : (Table.empty : Table Nat Nat).run 10 cexOps =
      some { db := [(0, 2)], cdb := [(0, [(5, some 1), (17, some 2)])], cache := [] } := by rfl
  rw [et] at e; cases e
  refine ⟨_, cexLoaded, _, rfl, et, hs, ?_, by decide, by decide, ?_, by rfl, by rfl, by decide, ?_, by decide⟩
  · exact ⟨by simp [AMap.Nodup, AMap.keys], by simp [AMap.Nodup, AMap.keys]⟩
  · intro k
    by_cases hk : k = 0
    · subst hk; decide
    · simp [cexOps, TSpec.run, TSpec.step, TSpec.upd, hk]
  · intro i
    match i with
    | 0 => decide
    | 1 => decide
    | j + 2 =>
      have l2 : (commitWrites 10 cexLoaded 16).length = 2 := by decide
      have e : cexLoaded.crashCommit 10 16 (j + 2) = cexLoaded.crashCommit 10 16 2 := by
        rw [crash_after_last_write 16 (j + 2) (by rw [l2]; omega), crash_after_last_write 16 2 (by rw [l2]; omega)]
      show ((cexLoaded.crashCommit 10 16 (j + 2)).reorg 10 16).map (fun t' => t'.latest 0) = some (some 1)
      rw [e]; decide

/-! ## `crash_recoverable` without `CacheAhead`: the scenario

A table in simulation (`Sim`) whose cached history of key 0 is *behind* the persisted one - the shape of the state
inside a `reorg`, between load and commit - so `CacheAhead` fails.  The crash at `b = 16`, `i = 1` has rewritten the
value row (`1`), the history row is still on disk, and `reorg 5` reads `1`. -/

def cexTable : Table Nat Nat :=
  { db := [(0, 2)], cdb := [(0, [(0, none), (5, some 1), (7, some 2)])], cache := [(0, [(0, none), (5, some 1)])] }

def cexSpec : TSpec Nat Nat :=
  { cur := fun k => if k = 0 then [(0, none), (5, some 1)] else Hist.new none,
    dur := fun k => if k = 0 then [(0, none), (5, some 1), (7, some 2)] else Hist.new none,
    top := 7, maxEver := 7 }

theorem cex_sim : Sim 10 cexTable cexSpec := by
  have ok1 : Ok ([(0, none), (5, some 1)] : Hist Nat) 7 :=
    ⟨by simp [Sorted], by intro e he; simp at he; rcases he with rfl | rfl <;> simp, by simp⟩
  have ok2 : Ok ([(0, none), (5, some 1), (7, some 2)] : Hist Nat) 7 :=
    ⟨by simp [Sorted], by intro e he; simp at he; rcases he with rfl | rfl | rfl <;> simp, by simp⟩
  have hget : ∀ {α : Type} (k : Nat) (x : α), k ≠ 0 → AMap.get? [((0 : Nat), x)] k = none := by
    intro α k x hk
    have : ¬ (0 = k) := fun e => hk e.symm
    simp [AMap.get?, this]
  refine ⟨⟨?_, ?_, ?_⟩, ?_, ?_, Nat.le_refl _, ?_, ?_⟩
  · simp [cexTable, AMap.Nodup, AMap.keys]
  · intro k h hg
    by_cases hk : k = 0
    · subst hk; simp [cexTable, AMap.get?] at hg; subst hg; exact ok1
    · simp [cexTable, hget k _ hk] at hg
  · intro k h hg
    by_cases hk : k = 0
    · subst hk; simp [cexTable, AMap.get?] at hg; subst hg; exact ⟨ok2, by decide⟩
    · simp [cexTable, hget k _ hk] at hg
  · intro k
    by_cases hk : k = 0
    · subst hk; exact ⟨ok1, none, _, rfl⟩
    · simp only [cexSpec, hk, if_false]; exact ⟨ok_new _ _, none, [], rfl⟩
  · intro k
    by_cases hk : k = 0
    · subst hk; exact ⟨ok2, none, _, rfl⟩
    · simp only [cexSpec, hk, if_false]; exact ⟨ok_new _ _, none, [], rfl⟩
  · intro k m _
    by_cases hk : k = 0
    · subst hk; rfl
    · simp [eff, retrieve, cexTable, cexSpec, hget k _ hk, hk]
  · intro k m _
    by_cases hk : k = 0
    · subst hk; rfl
    · simp [disk, cexTable, cexSpec, hget k _ hk, hk]

theorem crash_without_cacheAhead_scenario_recovers :
    Sim 10 cexTable cexSpec ∧ ColsNodup cexTable ∧
      cexSpec.maxEver ≤ 5 + 10 ∧ 5 ≤ cexSpec.maxEver ∧ 16 ≤ 5 + 10 + 1 ∧
      (∀ k, (cexSpec.cur k).valAt 5 = (cexSpec.dur k).valAt 5) ∧
      cexTable.crashCommit 10 16 1 =
        { db := [(0, 1)], cdb := [(0, [(0, none), (5, some 1), (7, some 2)])], cache := [] } ∧
      ((cexTable.crashCommit 10 16 1).reorg 10 5).map (fun t' => t'.latest 0) = some (some 1) ∧
      cexSpec.readAt 0 5 = some 1 ∧ ¬ CacheAhead cexTable := by
  refine ⟨cex_sim, ⟨by simp [cexTable, AMap.Nodup, AMap.keys], by simp [cexTable, AMap.Nodup, AMap.keys]⟩,
    by decide, by decide, by decide, ?_, by rfl, by decide, by decide, ?_⟩
  · intro k
    by_cases hk : k = 0
    · subst hk; decide
    · simp [cexSpec, hk]
  · intro ha
    have := ha 0 [(0, none), (5, some 1)] 5 (by decide) (by decide) (7, some 2) (by decide)
    omega

end Brc20.Table
