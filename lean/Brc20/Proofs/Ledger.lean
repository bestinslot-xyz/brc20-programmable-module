/-
Helper lemmas for C07: sums over association-list balances, the invariant of a token (`Flight`, `TokOk`) and the one
statement about `_update` that every entry point rests on (`update_spec`), the normal form of a token call
(`exec_cases`) and of a ledger message (`step_cases`), and the invariant `Good` of the controller.
-/
import Brc20.Model.Ledger
import Brc20.Proofs.AMap

namespace Brc20.Ledger
open AMap

/-- `Token.sumBalances` as a function of the balance map alone, for inductions over the map -/
def bsum (m : AMap Addr Nat) : Nat := (m.map (·.2)).sum

theorem sumBalances_eq (t : Token) : t.sumBalances = bsum t.balances := rfl

@[simp] theorem bsum_nil : bsum [] = 0 := rfl
@[simp] theorem bsum_cons (p : Addr × Nat) (m : AMap Addr Nat) : bsum (p :: m) = p.2 + bsum m := by
  simp [bsum]

theorem getD_le_bsum (m : AMap Addr Nat) (a : Addr) : (get? m a).getD 0 ≤ bsum m := by
  induction m with
  | nil => simp
  | cons p rest ih =>
    rw [get?_cons, bsum_cons]
    split
    · simp
    · omega

theorem bsum_erase (m : AMap Addr Nat) (nd : Nodup m) (a : Addr) :
    bsum (erase m a) + (get? m a).getD 0 = bsum m := by
  induction m with
  | nil => rfl
  | cons p rest ih =>
    have ⟨hp, nd'⟩ : p.1 ∉ keys rest ∧ Nodup rest := List.nodup_cons.mp nd
    have := ih nd'
    rw [erase_cons, get?_cons, bsum_cons]
    split
    · next h1 =>
      subst h1
      rw [(get?_eq_none_iff rest p.1).mpr hp] at this
      simp only [Option.getD_none, Option.getD_some] at this ⊢
      omega
    · rw [bsum_cons]
      omega

/-- additive, so that no truncated subtraction appears -/
theorem bsum_insert (m : AMap Addr Nat) (nd : Nodup m) (a : Addr) (x : Nat) :
    bsum (AMap.insert m a x) + (get? m a).getD 0 = bsum m + x := by
  have := bsum_erase m nd a
  rw [AMap.insert, bsum_cons]
  omega

theorem mod_u256_of_le {x : Nat} (h : x ≤ MAXU) : x % U256 = x :=
  Nat.mod_eq_of_lt (Nat.lt_of_le_of_lt h (by decide))

theorem sub_mod_u256 {s v : Nat} (hv : v ≤ s) (hs : s ≤ MAXU) : (s + U256 - v) % U256 = s - v := by
  rw [Nat.sub_add_comm hv, Nat.add_mod_right]
  exact mod_u256_of_le (Nat.le_trans (Nat.sub_le ..) hs)

/-- The invariant of a token with `d` units in flight: `_update` first takes the amount out of the sender's balance (or,
minting, adds it to the supply) and then puts it into the receiver's balance (or, burning, takes it off the supply); in
between the supply is that much ahead of the balances. Address 0 stands for the supply and has no balance row. -/
structure Flight (own : Addr) (d : Nat) (t : Token) : Prop where
  owner_eq : t.owner = own
  nd : Nodup t.balances
  sup : t.totalSupply = bsum t.balances + d
  le : t.totalSupply ≤ MAXU
  zero_absent : get? t.balances 0 = none

abbrev TokOk (own : Addr) (t : Token) : Prop := Flight own 0 t

theorem tokOk_fresh (own : Addr) : TokOk own { owner := own } :=
  ⟨rfl, List.nodup_nil, rfl, Nat.zero_le _, rfl⟩

variable {own : Addr} {t t' : Token} {d : Nat}

theorem Flight.balanceOf_le (h : Flight own d t) (a : Addr) : t.balanceOf a + d ≤ t.totalSupply := by
  have := getD_le_bsum t.balances a
  rw [h.sup, Token.balanceOf]
  omega

theorem Flight.balanceOf_zero (h : Flight own d t) : t.balanceOf 0 = 0 := by
  rw [Token.balanceOf, h.zero_absent]
  rfl

/-- a write to the balance of `a ≠ 0`: what the balance loses goes into flight, what it gains comes out of it -/
theorem Flight.insert (h : Flight own d t) {a : Addr} (ha : a ≠ 0) (x d' : Nat)
    (hd : x + d' = t.balanceOf a + d) :
    Flight own d' { t with balances := AMap.insert t.balances a x } := by
  have := bsum_insert t.balances h.nd a x
  have hs := h.sup
  refine ⟨h.owner_eq, nodup_insert h.nd .., ?_, h.le, ?_⟩
  · show t.totalSupply = bsum (AMap.insert t.balances a x) + d'
    rw [Token.balanceOf] at hd
    omega
  · show get? (AMap.insert t.balances a x) 0 = none
    rw [get?_insert, if_neg (Ne.symm ha)]
    exact h.zero_absent

/-- the two halves of `_update` -/
def debit (t : Token) (f v : Nat) : Option Token :=
  if f = 0 then
    if t.totalSupply + v ≤ MAXU then some { t with totalSupply := t.totalSupply + v } else none
  else if t.balanceOf f < v then none
    else some { t with balances := AMap.insert t.balances f (t.balanceOf f - v) }

def credit (t : Token) (to v : Nat) : Token :=
  if to = 0 then { t with totalSupply := (t.totalSupply + U256 - v) % U256 }
  else { t with balances := AMap.insert t.balances to ((t.balanceOf to + v) % U256) }

theorem update_eq (t : Token) (f to v : Nat) : t.update f to v = (debit t f v).map (credit · to v) := by
  unfold Token.update debit credit
  by_cases f0 : f = 0 <;> simp only [f0, if_true, if_false]
  · by_cases hg : t.totalSupply + v ≤ MAXU <;> simp only [hg, if_true, if_false, Option.map_some, Option.map_none]
    split <;> rfl
  · by_cases hg : t.balanceOf f < v <;> simp only [hg, if_true, if_false, Option.map_some, Option.map_none]
    split <;> rfl

theorem debit_spec (h : TokOk own t) (f v : Nat) :
    match debit t f v with
    | none => if f = 0 then MAXU < t.totalSupply + v else t.balanceOf f < v
    | some t1 => Flight own v t1 ∧ t1.allowances = t.allowances ∧
        t1.totalSupply = t.totalSupply + (if f = 0 then v else 0) ∧
        ∀ a, a ≠ 0 → t1.balanceOf a + (if a = f then v else 0) = t.balanceOf a := by
  by_cases f0 : f = 0
  · by_cases hg : t.totalSupply + v ≤ MAXU
    · rw [debit, if_pos f0, if_pos hg, if_pos f0]
      exact ⟨⟨h.owner_eq, h.nd, by rw [h.sup]; rfl, hg, h.zero_absent⟩, rfl, by rw [if_pos f0],
        fun a a0 => by rw [if_neg (f0 ▸ a0)]; rfl⟩
    · rw [debit, if_pos f0, if_neg hg, if_pos f0]
      exact Nat.lt_of_not_le hg
  · by_cases hg : t.balanceOf f < v
    · rw [debit, if_neg f0, if_pos hg, if_neg f0]
      exact hg
    · rw [debit, if_neg f0, if_neg hg, if_neg f0]
      have hv : v ≤ t.balanceOf f := Nat.le_of_not_lt hg
      refine ⟨h.insert f0 _ _ (Nat.sub_add_cancel hv), rfl, by rw [if_neg f0]; rfl, fun a _ => ?_⟩
      simp only [Token.balanceOf, get?_insert] at hv ⊢
      split
      · next e =>
        subst e
        exact Nat.sub_add_cancel hv
      · rfl

theorem credit_spec (h : Flight own v t) (to : Nat) :
    TokOk own (credit t to v) ∧ (credit t to v).allowances = t.allowances ∧
      (credit t to v).totalSupply + (if to = 0 then v else 0) = t.totalSupply ∧
      ∀ a, a ≠ 0 → (credit t to v).balanceOf a = t.balanceOf a + (if a = to then v else 0) := by
  have hb := h.balanceOf_le to
  have hv : v ≤ t.totalSupply := Nat.le_trans (Nat.le_add_left ..) hb
  by_cases to0 : to = 0
  · rw [credit, if_pos to0, if_pos to0, sub_mod_u256 hv h.le]
    refine ⟨⟨h.owner_eq, h.nd, ?_, Nat.le_trans (Nat.sub_le ..) h.le, h.zero_absent⟩, rfl, Nat.sub_add_cancel hv,
      fun a a0 => by rw [if_neg (to0 ▸ a0)]; rfl⟩
    show t.totalSupply - v = bsum t.balances + 0
    rw [h.sup]
    exact Nat.add_sub_cancel ..
  · rw [credit, if_neg to0, if_neg to0, mod_u256_of_le (Nat.le_trans hb h.le)]
    refine ⟨h.insert to0 _ _ rfl, rfl, rfl, fun a _ => ?_⟩
    simp only [Token.balanceOf, get?_insert]
    split
    · next e =>
      subst e
      rfl
    · rfl

/-- `_update`, as its callers see it: it reverts exactly on a supply overflow (mint) or an overdraft; otherwise it
moves `v` from `f` to `to`, address 0 standing for the supply, and nothing wraps. -/
theorem update_spec (h : TokOk own t) (f to v : Nat) :
    match t.update f to v with
    | none => if f = 0 then MAXU < t.totalSupply + v else t.balanceOf f < v
    | some t' => TokOk own t' ∧ t'.allowances = t.allowances ∧
        t'.totalSupply + (if to = 0 then v else 0) = t.totalSupply + (if f = 0 then v else 0) ∧
        ∀ a, a ≠ 0 → t'.balanceOf a + (if a = f then v else 0) = t.balanceOf a + (if a = to then v else 0) := by
  have h1 := debit_spec h f v
  rw [update_eq]
  cases hd : debit t f v with
  | none =>
    rw [hd] at h1
    exact h1
  | some t1 =>
    rw [hd] at h1
    obtain ⟨fl, ha, hs, hb⟩ := h1
    obtain ⟨ok, ha', hs', hb'⟩ := credit_spec fl to
    refine ⟨ok, ha'.trans ha, by rw [hs', hs], fun a a0 => ?_⟩
    have := hb a a0
    rw [hb' a a0]
    omega

/-! ### every entry point -/

/-- `t1` differs from `t` in its allowances at most -/
def SameLedger (t1 t : Token) : Prop :=
  t1.owner = t.owner ∧ t1.balances = t.balances ∧ t1.totalSupply = t.totalSupply

theorem SameLedger.tokOk {t1 : Token} (e : SameLedger t1 t) (h : TokOk own t) : TokOk own t1 := by
  obtain ⟨ho, hb, hs⟩ := e
  exact ⟨ho ▸ h.owner_eq, hb ▸ h.nd, hs ▸ hb ▸ h.sup, hs ▸ h.le, hb ▸ h.zero_absent⟩

theorem approve_same {o sp v : Nat} (hu : t.approve_ o sp v = some t') : SameLedger t' t := by
  simp only [Token.approve_, Option.ite_none_left_eq_some, Option.some.injEq] at hu
  rw [← hu.2.2]
  exact ⟨rfl, rfl, rfl⟩

theorem spend_same {o sp v : Nat} (hu : t.spendAllowance o sp v = some t') : SameLedger t' t := by
  unfold Token.spendAllowance at hu
  simp only at hu
  split at hu
  · exact approve_same (Option.ite_none_left_eq_some.mp hu).2
  · cases hu
    exact ⟨rfl, rfl, rfl⟩

/-- the entry points that move the supply; `approveAs` and `transferFromAs` are `onlyOwner` too, and `false` here -/
def Token.Call.isMintBurn : Token.Call → Bool
  | .mint _ _ => true
  | .burn _ _ => true
  | _ => false

/-- Allowances apart, a successful call is at most one `_update`, and address 0 (the supply) is on one side of it only in
the owner's `mint` and `burn`. -/
theorem exec_cases {s : Addr} {call : Token.Call} (hx : t.exec s call = some t') :
    ∃ t1, SameLedger t1 t ∧
      (t' = t1 ∨ ∃ f to v, t1.update f to v = some t' ∧
        (f ≠ 0 ∧ to ≠ 0 ∨ s = t.owner ∧ call.isMintBurn = true)) := by
  have xfer {t1 f to v} (e : SameLedger t1 t) (h : t1.transfer_ f to v = some t') :
      ∃ t1, SameLedger t1 t ∧ (t' = t1 ∨ ∃ f to v, t1.update f to v = some t' ∧
        (f ≠ 0 ∧ to ≠ 0 ∨ s = t.owner ∧ call.isMintBurn = true)) := by
    simp only [Token.transfer_, Option.ite_none_left_eq_some] at h
    exact ⟨t1, e, .inr ⟨f, to, v, h.2.2, .inl ⟨h.1, h.2.1⟩⟩⟩
  have spend {o sp f to v} (h : (t.spendAllowance o sp v).bind (fun t1 => t1.transfer_ f to v) = some t') :=
    let ⟨_, h1, h2⟩ := Option.bind_eq_some_iff.mp h; xfer (spend_same h1) h2
  cases call <;> simp only [Token.exec, Token.mint_, Token.burn_, Option.ite_none_left_eq_some,
    Option.ite_none_right_eq_some] at hx
  case transfer to v => exact xfer ⟨rfl, rfl, rfl⟩ hx
  case approve sp v => exact ⟨t', approve_same hx, .inl rfl⟩
  case transferFrom f to v => exact spend hx
  case approveAs o sp v => exact ⟨t', approve_same hx.2, .inl rfl⟩
  case transferFromAs sp f to v => exact spend hx.2
  case mint a v => exact ⟨t, ⟨rfl, rfl, rfl⟩, .inr ⟨0, a, v, hx.2.2, .inr ⟨hx.1, rfl⟩⟩⟩
  case burn a v => exact ⟨t, ⟨rfl, rfl, rfl⟩, .inr ⟨a, 0, v, hx.2.2, .inr ⟨hx.1, rfl⟩⟩⟩

theorem exec_ok {s : Addr} {call : Token.Call} (h : TokOk own t) (hx : t.exec s call = some t') : TokOk own t' := by
  obtain ⟨t1, e, rfl | ⟨f, to, v, hu, _⟩⟩ := exec_cases hx
  · exact e.tokOk h
  · have := update_spec (e.tokOk h) f to v
    rw [hu] at this
    exact this.1

theorem exec_supply {s : Addr} {call : Token.Call} (h : TokOk own t)
    (hs : s ≠ own ∨ call.isMintBurn = false) (hx : t.exec s call = some t') :
    t'.totalSupply = t.totalSupply := by
  obtain ⟨t1, e, rfl | ⟨f, to, v, hu, h0⟩⟩ := exec_cases hx
  · exact e.2.2
  · have := update_spec (e.tokOk h) f to v
    rw [hu] at this
    rcases h0 with ⟨hf, hto⟩ | ⟨ho, hm⟩
    · have := this.2.2.1
      rw [if_neg hf, if_neg hto] at this
      exact this.trans e.2.2
    · rcases hs with hs | hs
      · exact absurd (ho.trans h.owner_eq) hs
      · rw [hm] at hs
        cases hs

/-! ### the controller -/

/-- Invariants of a reachable ledger.  `token_ok` is `TokOk c.self t` (`Good.tokOk`) spelt out in the model's terms
(`sumBalances`; no `Flight`, no `bsum`): `Good` is a hypothesis of the C07 statements, which otherwise mention the
model only. -/
structure Good (c : Ctl) : Prop where
  self_ne_zero : c.self ≠ 0
  tokens_nodup : AMap.Nodup c.tokens
  token_ok : ∀ tk t, c.tokens.get? tk = some t →
    t.owner = c.self ∧ AMap.Nodup t.balances ∧ t.totalSupply = t.sumBalances ∧ t.totalSupply ≤ MAXU ∧
    t.balances.get? 0 = none

/-- the token of `tk`, an absent one read as the empty token that the first `mint` creates -/
def Ctl.tokenAt (c : Ctl) (tk : List UInt8) : Token := (get? c.tokens tk).getD { owner := c.self }

variable {c c' : Ctl} {tk : List UInt8}

theorem tokenAt_of_get? (ht : get? c.tokens tk = some t) : c.tokenAt tk = t := by
  rw [Ctl.tokenAt, ht]
  rfl

theorem tokenAt_of_none (hg : get? c.tokens tk = none) : c.tokenAt tk = { owner := c.self } := by
  rw [Ctl.tokenAt, hg]
  rfl

theorem Good.tokOk (h : Good c) (ht : get? c.tokens tk = some t) : TokOk c.self t :=
  let ⟨ho, nd, sup, le, z⟩ := h.token_ok tk t ht
  ⟨ho, nd, sup, le, z⟩

theorem Good.tokenAt (h : Good c) (tk : List UInt8) : TokOk c.self (c.tokenAt tk) := by
  unfold Ctl.tokenAt
  cases ht : get? c.tokens tk with
  | none => exact tokOk_fresh _
  | some t => exact h.tokOk ht

theorem totalSupply_eq (c : Ctl) (tk : List UInt8) : c.totalSupply tk = (c.tokenAt tk).totalSupply := by
  unfold Ctl.totalSupply Ctl.tokenAt
  cases get? c.tokens tk <;> rfl

theorem balanceOf_eq (c : Ctl) (tk : List UInt8) (a : Addr) : c.balanceOf tk a = (c.tokenAt tk).balanceOf a := by
  unfold Ctl.balanceOf Ctl.tokenAt
  cases get? c.tokens tk <;> rfl

/-- `c'` is `c` with the token of `tk` replaced by `t'` (extensionally) -/
structure Upd (c c' : Ctl) (tk : List UInt8) (t' : Token) : Prop where
  self_eq : c'.self = c.self
  owner_eq : c'.owner = c.owner
  nd : Nodup c.tokens → Nodup c'.tokens
  get : ∀ tk', get? c'.tokens tk' = if tk' = tk then some t' else get? c.tokens tk'

theorem upd_insert (c : Ctl) (tk : List UInt8) (t' : Token) :
    Upd c { c with tokens := AMap.insert c.tokens tk t' } tk t' :=
  ⟨rfl, rfl, fun nd => nodup_insert nd _ _, fun _ => get?_insert _ _ _ _⟩

theorem Upd.trans {c0 : Ctl} {t0 : Token} (u0 : Upd c c0 tk t0) (u : Upd c0 c' tk t') : Upd c c' tk t' :=
  ⟨u.self_eq.trans u0.self_eq, u.owner_eq.trans u0.owner_eq, u.nd ∘ u0.nd, fun tk' => by
    rw [u.get, u0.get]
    split <;> rfl⟩

theorem Upd.tokenAt (u : Upd c c' tk t') (tk' : List UInt8) :
    c'.tokenAt tk' = if tk' = tk then t' else c.tokenAt tk' := by
  unfold Ctl.tokenAt
  rw [u.get, u.self_eq]
  split <;> rfl

theorem Good.upd (h : Good c) (u : Upd c c' tk t') (ht' : TokOk c.self t') : Good c' := by
  refine ⟨u.self_eq ▸ h.self_ne_zero, u.nd h.tokens_nodup, fun tk' t ht => ?_⟩
  have := u.tokenAt tk'
  rw [tokenAt_of_get? ht] at this
  have ok : TokOk c.self t := by
    rw [this]
    split
    · exact ht'
    · exact h.tokenAt tk'
  rw [u.self_eq]
  exact ⟨ok.owner_eq, ok.nd, ok.sup, ok.le, ok.zero_absent⟩

theorem onToken_upd {call : Token.Call} (hu : c.onToken tk call = some c') :
    ∃ t', (c.tokenAt tk).exec c.self call = some t' ∧ Upd c c' tk t' := by
  unfold Ctl.onToken at hu
  split at hu
  · cases hu
  · next t ht =>
    obtain ⟨t', he, rfl⟩ := Option.map_eq_some_iff.mp hu
    rw [tokenAt_of_get? ht]
    exact ⟨t', he, upd_insert c tk t'⟩

/-- a message that is neither an indexer call to the controller nor a direct call by the controller -/
def UserMsg (c : Ctl) : Msg → Prop
  | .ctl s _ => s ≠ c.owner
  | .token s _ _ => s ≠ c.self

/-- `s` is the sender the token sees: the controller itself for every call that comes through it. -/
theorem step_cases (c : Ctl) (m : Msg) :
    step c m = c ∨
    ∃ tk t' s call, (c.tokenAt tk).exec s call = some t' ∧ Upd c (step c m) tk t' ∧
      (UserMsg c m → s ≠ c.self ∨ call.isMintBurn = false) := by
  cases m with
  | token s tk call =>
    simp only [step]
    split
    · exact .inl rfl
    · next t ht =>
      rw [← tokenAt_of_get? ht]
      split
      · next t' he => exact .inr ⟨tk, t', s, call, he, upd_insert c tk t', .inl⟩
      · exact .inl rfl
  | ctl s call =>
    simp only [step]
    cases he : c.exec s call with
    | none => exact .inl rfl
    | some c' =>
      refine .inr ?_
      cases call <;> simp only [Ctl.exec, Option.ite_none_left_eq_some] at he
      case transfer tk _ _ | approve tk _ _ | transferFrom tk _ _ _ =>
        obtain ⟨t', hx, u⟩ := onToken_upd he
        exact ⟨tk, t', c.self, _, hx, u, fun _ => .inr rfl⟩
      case burn tk _ _ =>
        obtain ⟨t', hx, u⟩ := onToken_upd he.2
        exact ⟨tk, t', c.self, _, hx, u, fun hu => absurd hu he.1⟩
      case mint tk _ _ =>
        obtain ⟨hso, he⟩ := he
        split at he
        · obtain ⟨t', hx, u⟩ := onToken_upd he
          exact ⟨tk, t', c.self, _, hx, u, fun hu => absurd hu hso⟩
        · next hg =>
          obtain ⟨t', hx, u⟩ := onToken_upd he
          have u0 := upd_insert c tk { owner := c.self }
          rw [u0.tokenAt, if_pos rfl, ← tokenAt_of_none hg] at hx
          exact ⟨tk, t', c.self, _, hx, u0.trans u, fun hu => absurd hu hso⟩

theorem step_self (c : Ctl) (m : Msg) : (step c m).self = c.self := by
  rcases step_cases c m with h | ⟨_, _, _, _, _, u, _⟩
  · rw [h]
  · exact u.self_eq

theorem step_owner (c : Ctl) (m : Msg) : (step c m).owner = c.owner := by
  rcases step_cases c m with h | ⟨_, _, _, _, _, u, _⟩
  · rw [h]
  · exact u.owner_eq

theorem good_init (self owner : Addr) (h : self ≠ 0) : Good { self := self, owner := owner } :=
  ⟨h, List.nodup_nil, fun _ _ ht => nomatch ht⟩

theorem good_step (m : Msg) (h : Good c) : Good (step c m) := by
  rcases step_cases c m with e | ⟨tk, t', s, call, hx, u, _⟩
  · rw [e]
    exact h
  · exact h.upd u (exec_ok (h.tokenAt tk) hx)

theorem good_run (ms : List Msg) (h : Good c) : Good (run c ms) := by
  induction ms generalizing c with
  | nil => exact h
  | cons m ms ih => exact ih (good_step m h)

theorem step_supply (h : Good c) (m : Msg) (hs : UserMsg c m) (tk : List UInt8) :
    (step c m).totalSupply tk = c.totalSupply tk := by
  rcases step_cases c m with e | ⟨tk0, t', s, call, hx, u, hu⟩
  · rw [e]
  · rw [totalSupply_eq, totalSupply_eq, u.tokenAt]
    split
    · next e =>
      rw [e]
      exact exec_supply (h.tokenAt tk0) (hu hs) hx
    · rfl

theorem step_mint (h : Good c) (tk : List UInt8) {to : Nat} (hto : to ≠ 0) (v : Nat) :
    match (c.tokenAt tk).update 0 to v with
    | none => step c (.ctl c.owner (.mint tk to v)) = c
    | some t' => Upd c (step c (.ctl c.owner (.mint tk to v))) tk t' := by
  have ex (t : Token) (ho : t.owner = c.self) : t.exec c.self (.mint to v) = t.update 0 to v := by
    rw [Token.exec, if_pos ho.symm, Token.mint_, if_neg hto]
  simp only [step, Ctl.exec, ne_eq, not_true, if_false]
  cases hg : get? c.tokens tk with
  | some t0 =>
    simp only [Ctl.onToken, hg, tokenAt_of_get? hg, ex t0 (h.tokOk hg).owner_eq]
    cases t0.update 0 to v with
    | none => rfl
    | some t' => exact upd_insert c tk t'
  | none =>
    simp only [Ctl.onToken, get?_insert, if_true, tokenAt_of_none hg, ex { owner := c.self } rfl]
    cases ({ owner := c.self } : Token).update 0 to v with
    | none => rfl
    | some t' => exact (upd_insert c tk _).trans (upd_insert _ tk t')

theorem step_burn (h : Good c) (tk : List UInt8) {f : Nat} (hf : f ≠ 0) (v : Nat) :
    match (get? c.tokens tk).bind (·.update f 0 v) with
    | none => step c (.ctl c.owner (.burn tk f v)) = c
    | some t' => Upd c (step c (.ctl c.owner (.burn tk f v))) tk t' := by
  simp only [step, Ctl.exec, ne_eq, not_true, if_false, Ctl.onToken]
  cases hg : get? c.tokens tk with
  | none => rfl
  | some t0 =>
    have ex : t0.exec c.self (.burn f v) = t0.update f 0 v := by
      rw [Token.exec, if_pos (h.tokOk hg).owner_eq.symm, Token.burn_, if_neg hf]
    simp only [Option.bind_some, ex]
    cases t0.update f 0 v with
    | none => rfl
    | some t' => exact upd_insert c tk t'

end Brc20.Ledger
