/-
The history operations in terms of `valAt`, on well-formed histories (`Ok`): `set` and `unset` are one operation
`write` on `Option V`; a truncated history is well-formed again (`Ok.cut`); `settle` is what a commit leaves on disk
(`isOld`).
-/
import Brc20.Proofs.Hist
set_option linter.unusedSectionVars false

namespace Brc20.Hist
variable {V : Type} [DecidableEq V]

/-- What the `BTreeMap` and the stamping discipline of the Rust give a stored history whose stamps are all ≤ `top`. -/
structure Ok (h : Hist V) (top : Nat) : Prop where
  sorted : Sorted h
  le : KeysLe h top
  ne : h ≠ []

theorem ok_new (i : Option V) (top : Nat) : Ok (Hist.new i) top :=
  ⟨by simp [Sorted, Hist.new], by simp [KeysLe, Hist.new], by simp [Hist.new]⟩

theorem Ok.mono {h : Hist V} {a b : Nat} (o : Ok h a) (hab : a ≤ b) : Ok h b :=
  ⟨o.sorted, keysLe_mono o.le hab, o.ne⟩

theorem Ok.lastKey {h : Hist V} {top : Nat} (o : Ok h top) : ∃ l, lastKey? h = some l ∧ l ≤ top := by
  rcases nil_or_concat h with rfl | ⟨init, l, x, rfl⟩
  · exact absurd rfl o.ne
  · exact ⟨l, lastKey?_concat init l x, o.le (l, x) (by simp)⟩

theorem Ok.valAt_top {h : Hist V} {top m : Nat} (o : Ok h top) (hm : top ≤ m) : valAt h m = some (latest h) :=
  valAt_eq_latest o.sorted o.ne (keysLe_mono o.le hm)

theorem Ok.latest_eq {h g : Hist V} {top m : Nat} (o : Ok h top) (o' : Ok g top) (hm : top ≤ m)
    (e : valAt h m = valAt g m) : latest h = latest g := by
  rw [o.valAt_top hm, o'.valAt_top hm] at e
  exact Option.some.inj e

theorem Ok.cut {h : Hist V} {top : Nat} (o : Ok h top) (n : Nat) (hne : cut n h ≠ []) : Ok (cut n h) (min top n) := by
  refine ⟨sorted_cut o.sorted n, fun e he => ?_, hne⟩
  have h1 := o.le e (List.mem_filter.mp he).1
  have h2 := keysLe_cut n h e he
  omega

theorem Ok.put {h : Hist V} {top b : Nat} (o : Ok h top) (hb : top ≤ b) (x : Option V) : Ok (put h b x) b :=
  ⟨sorted_put o.sorted (keysLe_mono o.le hb), keysLe_put o.sorted (keysLe_mono o.le hb), put_ne_nil⟩

/-- writing the newest value again at or above every stored stamp changes no answer -/
theorem Ok.valAt_of_latest {h : Hist V} {top b : Nat} (o : Ok h top) (hb : top ≤ b) {x : Option V}
    (hx : latest h = x) (m : Nat) : valAt h m = if b ≤ m then some x else valAt h m := by
  split
  · rw [o.valAt_top (by omega), hx]
  · rfl

/-- Record the version `x` (`some v`: set, `none`: unset) at block `b`, unless `x` is already the newest value. -/
def write (W : Nat) (h : Hist V) (b : Nat) (x : Option V) : Hist V :=
  if latest h = x then h else prune W (put h b x) b

/-- the stamp `b` is below the newest stored one -/
def stale (h : Hist V) (b : Nat) : Prop := ∃ l, lastKey? h = some l ∧ b < l

theorem set_eq_none {W : Nat} {h : Hist V} {b : Nat} (hs : stale h b) (v : V) : set W h b v = none := by
  obtain ⟨l, hl, hb⟩ := hs; simp [set, hl, hb]

theorem set_eq_write {W : Nat} {h : Hist V} {b : Nat} (hs : ¬ stale h b) (v : V) :
    set W h b v = some (write W h b (some v)) := by
  unfold set write
  -- `none` is the empty history: the Rust panics there (`.expect("Cache is never empty")`), the model writes
  cases hl : lastKey? h with
  | none => cases lastKey?_none hl; rfl
  | some l =>
    have : ¬ b < l := fun hb => hs ⟨l, hl, hb⟩
    simp only [this, if_false]; split <;> rfl

theorem unset_eq_none {W : Nat} {h : Hist V} {b : Nat} (hs : stale h b) : unset W h b = none := by
  obtain ⟨l, hl, hb⟩ := hs; simp [unset, hl, hb]

theorem unset_eq_write {W : Nat} {h : Hist V} {b : Nat} (hs : ¬ stale h b) :
    unset W h b = some (write W h b none) := by
  unfold unset write
  cases hl : lastKey? h with
  | none => cases lastKey?_none hl; rfl
  | some l =>
    have : ¬ b < l := fun hb => hs ⟨l, hl, hb⟩
    simp only [this, if_false]
    cases latest h <;> simp

theorem Ok.not_stale {h : Hist V} {top b : Nat} (o : Ok h top) (hb : top ≤ b) : ¬ stale h b := by
  rintro ⟨l, hl, hlt⟩
  obtain ⟨l', hl', hle⟩ := o.lastKey
  rw [hl] at hl'; cases hl'; omega

theorem write_spec (W : Nat) {h : Hist V} {top b : Nat} (o : Ok h top) (hb : top ≤ b) (x : Option V) :
    Ok (write W h b x) b ∧ ∀ m, b ≤ m + W → valAt (write W h b x) m = if b ≤ m then some x else valAt h m := by
  unfold write; split
  · rename_i hv
    exact ⟨o.mono hb, fun m _ => o.valAt_of_latest hb hv m⟩
  · have op := o.put hb x
    exact ⟨⟨sorted_prune W op.sorted, keysLe_prune W op.le, prune_ne_nil W op.ne⟩,
      fun m hm => by rw [valAt_prune W op.sorted hm, valAt_put o.sorted (keysLe_mono o.le hb)]⟩

theorem length_write (W : Nat) {h : Hist V} {top b : Nat} (o : Ok h top) (hb : top ≤ b) (x : Option V)
    (hl : h.length ≤ W + 1) : (write W h b x).length ≤ W + 1 := by
  unfold write; split
  · exact hl
  · exact length_prune W (o.put hb x).sorted (o.put hb x).le

theorem write_latest (W : Nat) (h : Hist V) (b : Nat) (x : Option V) : latest (write W h b x) = x := by
  unfold write; split
  · assumption
  · rw [latest_prune, latest_put]

theorem write_lastKey (W : Nat) (h : Hist V) (b : Nat) (x : Option V) :
    write W h b x = h ∨ lastKey? (write W h b x) = some b := by
  unfold write; split
  · exact Or.inl rfl
  · exact Or.inr (by rw [lastKey?_prune, lastKey?_put])

theorem isOld_iff {W b l : Nat} {h : Hist V} (hl : lastKey? h = some l) : isOld W h b = true ↔ l + W < b := by
  simp [isOld, hl]

/-- The test is strict (`isOld_iff`), so the bound is one block more generous than the window `b ≤ m + W` of a write
stamped `b`. -/
theorem isOld_const {W : Nat} {h : Hist V} {top b : Nat} (o : Ok h top) (ho : isOld W h b = true) {m : Nat}
    (hm : b ≤ m + W + 1) : valAt h m = some (latest h) := by
  obtain ⟨l, hl, _⟩ := o.lastKey
  have := (isOld_iff hl).mp ho
  exact valAt_eq_latest o.sorted o.ne (keysLe_mono (keysLe_lastKey o.sorted hl) (by omega))

/-- What `commit b` leaves retrievable for a cached history `h`: `h` itself, or - when `h` is old - only its
newest value, which a later `retrieve_cache` re-seeds at block 0. -/
def settle (W b : Nat) (h : Hist V) : Hist V := if h.isOld W b then Hist.new h.latest else h

theorem latest_settle (W b : Nat) (h : Hist V) : (settle W b h).latest = h.latest := by
  unfold settle; split
  · exact latest_new _
  · rfl

theorem settle_new (W b : Nat) (x : Option V) : settle W b (Hist.new x) = Hist.new x := by
  unfold settle; split
  · rw [latest_new]
  · rfl

theorem Ok.settle {h : Hist V} {top : Nat} (o : Ok h top) (W b : Nat) : Ok (settle W b h) top := by
  unfold Hist.settle; split
  · exact ok_new _ _
  · exact o

theorem valAt_settle {W b : Nat} {h : Hist V} {top m : Nat} (o : Ok h top) (hm : b ≤ m + W + 1) :
    valAt (settle W b h) m = valAt h m := by
  unfold settle; split
  · rename_i ho; rw [valAt_new, isOld_const o ho hm]
  · rfl

theorem length_settle {W b : Nat} {h : Hist V} {N : Nat} (hl : h.length ≤ N + 1) : (settle W b h).length ≤ N + 1 := by
  unfold settle; split
  · simp [Hist.new]
  · exact hl

end Brc20.Hist
