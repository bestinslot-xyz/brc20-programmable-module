/-
The three views through which everything above this file looks at a table - `eff` (the history the next write
to a key acts on), `disk` (what a reopened instance would retrieve) and the value row `db.get?` - and what
each operation does to them, key by key: a write replaces one `eff`; `clear` makes `eff = disk`; `commit b` leaves
`settle W b` of every cached history on disk; `reorg n` leaves `settle W n (cut n (eff k))` for every key, or panics;
a crash inside a commit leaves, for every key, the old `disk` or the new one.
-/
import Brc20.Model.TableSpec
import Brc20.Proofs.AMap
import Brc20.Proofs.HistOps
set_option linter.unusedSectionVars false

namespace Brc20.Table
variable {K V : Type} [DecidableEq K] [DecidableEq V]
open Hist

/-- The history the next write to `k` acts on: the model's `retrieve` (`retrieve_cache`), named as a view of the table
rather than as a step of `set`. -/
def eff (t : Table K V) (k : K) : Hist V := t.retrieve k

/-- What a reopened instance would retrieve for `k`. -/
def disk (t : Table K V) (k : K) : Hist V :=
  match t.cdb.get? k with
  | some h => h
  | none => Hist.new (t.db.get? k)

theorem eff_cached {t : Table K V} {k : K} {h : Hist V} (hc : t.cache.get? k = some h) : eff t k = h := by
  simp [eff, retrieve, hc]

theorem eff_uncached {t : Table K V} {k : K} (hc : t.cache.get? k = none) : eff t k = disk t k := by
  simp only [eff, disk, retrieve, hc]
  cases t.cdb.get? k <;> rfl

theorem disk_congr {t u : Table K V} {k : K} (h1 : u.cdb.get? k = t.cdb.get? k) (h2 : u.db.get? k = t.db.get? k) :
    disk u k = disk t k := by
  unfold disk; rw [h1, h2]

theorem disk_of_cdb {t : Table K V} {k : K} {h : Hist V} (hd : t.cdb.get? k = some h) : disk t k = h := by
  simp [disk, hd]

theorem disk_of_cdb_none {t : Table K V} {k : K} (hd : t.cdb.get? k = none) : disk t k = Hist.new (t.db.get? k) := by
  simp [disk, hd]

theorem eff_of_cache_nil {t : Table K V} (hc : t.cache = []) (k : K) : eff t k = disk t k :=
  eff_uncached (by rw [hc]; rfl)

theorem latest_of_cache_nil {t : Table K V} (hc : t.cache = []) (k : K) : t.latest k = t.db.get? k := by
  simp [Table.latest, hc]

theorem mem_keys_of_latest {t : Table K V} {k : K} {v : V} (h : t.latest k = some v) :
    k ∈ t.db.keys ++ t.cache.keys := by
  rw [List.mem_append]
  unfold Table.latest at h
  cases hc : t.cache.get? k with
  | some _ => exact Or.inr (AMap.mem_keys_of_get? hc)
  | none => rw [hc] at h; exact Or.inl (AMap.mem_keys_of_get? h)

/-! ## `set` / `unset`: one cached history replaced -/

def setHist (t : Table K V) (k : K) (h : Hist V) : Table K V := { t with cache := t.cache.insert k h }

theorem set_eq (W : Nat) (t : Table K V) (b : Nat) (k : K) (v : V) :
    t.set W b k v = ((eff t k).set W b v).map (t.setHist k) := by
  unfold Table.set eff; cases (t.retrieve k).set W b v <;> rfl

theorem unset_eq (W : Nat) (t : Table K V) (b : Nat) (k : K) :
    t.unset W b k = ((eff t k).unset W b).map (t.setHist k) := by
  unfold Table.unset eff; cases (t.retrieve k).unset W b <;> rfl

theorem cache_setHist (t : Table K V) (k : K) (h : Hist V) (k' : K) :
    (t.setHist k h).cache.get? k' = if k' = k then some h else t.cache.get? k' := AMap.get?_insert ..

theorem eff_setHist (t : Table K V) (k : K) (h : Hist V) (k' : K) :
    eff (t.setHist k h) k' = if k' = k then h else eff t k' := by
  simp only [eff, retrieve, setHist, AMap.get?_insert]
  by_cases hk : k' = k <;> simp [hk]

theorem latest_setHist (t : Table K V) (k : K) (h : Hist V) (k' : K) :
    (t.setHist k h).latest k' = if k' = k then h.latest else t.latest k' := by
  simp only [Table.latest, setHist, AMap.get?_insert]
  by_cases hk : k' = k <;> simp [hk]

theorem set_some {W : Nat} {t t' : Table K V} {b : Nat} {k : K} {v : V} (h : t.set W b k v = some t') :
    t' = t.setHist k (write W (eff t k) b (some v)) := by
  rw [set_eq] at h
  by_cases hs : stale (eff t k) b
  · rw [set_eq_none hs] at h; cases h
  · rw [set_eq_write hs] at h; cases h; rfl

theorem unset_some {W : Nat} {t t' : Table K V} {b : Nat} {k : K} (h : t.unset W b k = some t') :
    t' = t.setHist k (write W (eff t k) b none) := by
  rw [unset_eq] at h
  by_cases hs : stale (eff t k) b
  · rw [unset_eq_none hs] at h; cases h
  · rw [unset_eq_write hs] at h; cases h; rfl

/-! ## persistent writes, key by key -/

def Write.key : Write K V → K
  | .putCdb k _ => k
  | .delCdb k => k
  | .putDb k _ => k
  | .delDb k => k

theorem applyWrites_append (t : Table K V) (ws ws' : List (Write K V)) :
    t.applyWrites (ws ++ ws') = (t.applyWrites ws).applyWrites ws' := List.foldl_append ..

theorem applyWrites_frame {k : K} {ws : List (Write K V)} (hk : ∀ w ∈ ws, Write.key w ≠ k) (t : Table K V) :
    (t.applyWrites ws).cdb.get? k = t.cdb.get? k ∧ (t.applyWrites ws).db.get? k = t.db.get? k := by
  induction ws generalizing t with
  | nil => exact ⟨rfl, rfl⟩
  | cons w ws ih =>
    have hw : Write.key w ≠ k := hk w (by simp)
    obtain ⟨h1, h2⟩ := ih (fun w hw => hk w (by simp [hw])) (t.applyWrite w)
    rw [applyWrites, List.foldl_cons, ← applyWrites, h1, h2]
    cases w <;> simp only [Write.key] at hw <;>
      simp [applyWrite, AMap.get?_insert, AMap.get?_erase, Ne.symm hw]

theorem disk_frame {k : K} {ws : List (Write K V)} (hk : ∀ w ∈ ws, Write.key w ≠ k) (t : Table K V) :
    disk (t.applyWrites ws) k = disk t k :=
  disk_congr (applyWrites_frame hk t).1 (applyWrites_frame hk t).2

theorem keyWrites_key (W b : Nat) (k : K) (h : Hist V) : ∀ w ∈ keyWrites W b k h, Write.key w = k := by
  intro w hw
  cases ho : h.isOld W b <;> cases hl : h.latest <;> simp [keyWrites, ho, hl] at hw <;>
    rcases hw with rfl | rfl <;> rfl

theorem commitWrites_key_ne (W b : Nat) {c : AMap K (Hist V)} {k : K} (hk : k ∉ AMap.keys c) :
    ∀ w ∈ c.flatMap (fun p => keyWrites W b p.1 p.2), Write.key w ≠ k := by
  intro w hw e
  obtain ⟨p, hp, hw⟩ := List.mem_flatMap.mp hw
  rw [keyWrites_key W b p.1 p.2 w hw] at e
  exact hk (e ▸ List.mem_map_of_mem (f := (·.1)) hp)

theorem commitWrites_split (W b : Nat) {c : AMap K (Hist V)} (nd : AMap.Nodup c) {k : K} {h : Hist V}
    (hg : c.get? k = some h) :
    ∃ A B : List (Write K V), c.flatMap (fun p => keyWrites W b p.1 p.2) = A ++ keyWrites W b k h ++ B ∧
      (∀ w ∈ A, Write.key w ≠ k) ∧ ∀ w ∈ B, Write.key w ≠ k := by
  obtain ⟨s, r, rfl⟩ := List.append_of_mem (AMap.mem_of_get? hg)
  have nd' : (AMap.keys s ++ k :: AMap.keys r).Nodup := by simpa [AMap.Nodup, AMap.keys] using nd
  obtain ⟨_, hr, hs⟩ := List.nodup_append.mp nd'
  exact ⟨_, _, by simp [List.flatMap_append],
    commitWrites_key_ne W b fun hm => hs k hm k (List.mem_cons_self ..) rfl,
    commitWrites_key_ne W b (List.nodup_cons.mp hr).1⟩

/-! ## `commit`, and a crash inside it -/

theorem disk_keyWrites (W b : Nat) (t : Table K V) (k : K) (h : Hist V) :
    disk (t.applyWrites (keyWrites W b k h)) k = settle W b h ∧
      (t.applyWrites (keyWrites W b k h)).db.get? k = h.latest := by
  cases ho : h.isOld W b <;> cases hl : h.latest <;>
    simp [disk, settle, keyWrites, applyWrites, ho, hl, applyWrite, AMap.get?_erase, AMap.get?_insert]

/-- After any prefix of the two writes of `k` (only `j = 1` lies strictly in between) `k` still retrieves its old
history, or already the new one: a kept history is written first; for an old one the value row is written first and
the old history row stays - or there was none, and the new value row alone is what `settle` leaves. -/
theorem disk_keyWrites_take (W b : Nat) (t : Table K V) (k : K) (h : Hist V) (j : Nat) :
    disk (t.applyWrites ((keyWrites W b k h).take j)) k = disk t k ∨
      disk (t.applyWrites ((keyWrites W b k h).take j)) k = settle W b h := by
  match j with
  | 0 => exact Or.inl rfl
  | 1 =>
    cases ho : h.isOld W b <;> cases hl : h.latest <;> cases hd : t.cdb.get? k <;>
      simp [disk, settle, keyWrites, applyWrites, ho, hl, hd, applyWrite, AMap.get?_erase, AMap.get?_insert]
  | j + 2 =>
    right
    have : (keyWrites W b k h).take (j + 2) = keyWrites W b k h := by
      cases ho : h.isOld W b <;> simp [keyWrites, ho]
    rw [this]; exact (disk_keyWrites W b t k h).1

theorem commit_cache (W b : Nat) (t : Table K V) : (t.commit W b).cache = [] := rfl

theorem commit_of_cache_nil {W b : Nat} {t : Table K V} (h : t.cache = []) : t.commit W b = t := by
  cases t
  simp only at h
  subst h
  rfl

theorem disk_commit (W b : Nat) {t : Table K V} (nd : AMap.Nodup t.cache) (k : K) :
    disk (t.commit W b) k = match t.cache.get? k with
      | some h => settle W b h
      | none => disk t k := by
  -- the `clear` that ends `commit` is invisible to `disk`, which reads the two columns only
  show disk (t.applyWrites (t.commitWrites W b)) k = _
  unfold commitWrites
  cases hg : t.cache.get? k with
  | none => exact disk_frame (commitWrites_key_ne W b ((AMap.get?_eq_none_iff _ k).mp hg)) t
  | some h =>
    obtain ⟨A, B, e, hA, hB⟩ := commitWrites_split W b nd hg
    rw [e, applyWrites_append, applyWrites_append, disk_frame hB]
    exact (disk_keyWrites W b _ k h).1

theorem db_commit (W b : Nat) {t : Table K V} (nd : AMap.Nodup t.cache) (k : K) :
    (t.commit W b).db.get? k = t.latest k := by
  show (t.applyWrites (t.commitWrites W b)).db.get? k = _
  unfold commitWrites Table.latest
  cases hg : t.cache.get? k with
  | none => exact (applyWrites_frame (commitWrites_key_ne W b ((AMap.get?_eq_none_iff _ k).mp hg)) t).2
  | some h =>
    obtain ⟨A, B, e, hA, hB⟩ := commitWrites_split W b nd hg
    rw [e, applyWrites_append, applyWrites_append]
    exact (applyWrites_frame hB _).2.trans (disk_keyWrites W b _ k h).2

/-- A crash inside `commit`, after any number `i` of its writes, is atomic per key. -/
theorem disk_crashCommit (W b i : Nat) {t : Table K V} (nd : AMap.Nodup t.cache) (k : K) :
    disk (t.crashCommit W b i) k = disk t k ∨ disk (t.crashCommit W b i) k = disk (t.commit W b) k := by
  rw [disk_commit W b nd]
  show disk (t.applyWrites ((t.commitWrites W b).take i)) k = _ ∨ disk (t.applyWrites ((t.commitWrites W b).take i)) k = _
  unfold commitWrites
  cases hg : t.cache.get? k with
  | none =>
    have hk := commitWrites_key_ne W b ((AMap.get?_eq_none_iff _ k).mp hg)
    exact Or.inl (disk_frame (fun w hw => hk w (List.mem_of_mem_take hw)) t)
  | some h =>
    obtain ⟨A, B, e, hA, hB⟩ := commitWrites_split W b nd hg
    have hA' : ∀ w ∈ A.take i, Write.key w ≠ k := fun w hw => hA w (List.mem_of_mem_take hw)
    have hB' : ∀ j, ∀ w ∈ B.take j, Write.key w ≠ k := fun j w hw => hB w (List.mem_of_mem_take hw)
    -- the writes behind those of `k` do not touch `k`; nor do those in front, so `disk t k` on the right is `disk` after
    -- `A.take i`: both sides now start from that table, and only a prefix of the writes of `k` itself is left
    rw [e, List.take_append, List.take_append, applyWrites_append, applyWrites_append, disk_frame (hB' _),
      ← disk_frame hA' t]
    exact disk_keyWrites_take W b _ k h _

/-! ## `reorg` -/

theorem reorgLoad_cons (t : Table K V) (n : Nat) (k : K) (ks : List K) :
    t.reorgLoad n (k :: ks) = if cut n (eff t k) = [] then none else (t.setHist k (cut n (eff t k))).reorgLoad n ks := by
  rw [reorgLoad, ← eff, reorg_eq]
  by_cases h : cut n (eff t k) = []
  · rw [if_pos h, if_pos h]
  · rw [if_neg h, if_neg h]; rfl

theorem reorgLoad_spec (n : Nat) (ks : List K) (t : Table K V) :
    match t.reorgLoad n ks with
    | none => ∃ k ∈ ks, cut n (eff t k) = []
    | some t1 => t1.db = t.db ∧ t1.cdb = t.cdb ∧ (AMap.Nodup t.cache → AMap.Nodup t1.cache) ∧
        ∀ k, if k ∈ ks then cut n (eff t k) ≠ [] ∧ t1.cache.get? k = some (cut n (eff t k))
          else t1.cache.get? k = t.cache.get? k := by
  induction ks generalizing t with
  | nil => exact ⟨rfl, rfl, id, fun k => by simp⟩
  | cons k0 ks ih =>
    rw [reorgLoad_cons]
    by_cases h0 : cut n (eff t k0) = []
    · rw [if_pos h0]; exact ⟨k0, by simp, h0⟩
    · rw [if_neg h0]
      have e : ∀ k, cut n (eff (t.setHist k0 (cut n (eff t k0))) k) = cut n (eff t k) := by
        intro k; rw [eff_setHist]; split
        · rename_i hk; rw [hk, cut_cut]
        · rfl
      have := ih (t.setHist k0 (cut n (eff t k0)))
      split at this
      · obtain ⟨k, hk, hn⟩ := this
        exact ⟨k, by simp [hk], (e k).symm.trans hn⟩
      · obtain ⟨e1, e2, e3, e4⟩ := this
        refine ⟨e1, e2, fun nd => e3 (AMap.nodup_insert nd _ _), fun k => ?_⟩
        have := e4 k
        rw [e k, cache_setHist] at this
        by_cases hk : k = k0
        · subst hk; simp only [List.mem_cons, true_or, if_true]
          split at this
          · exact this
          · exact ⟨h0, by simpa using this⟩
        · simpa [hk] using this

theorem eff_of_not_mem_reorgKeys {t : Table K V} {k : K} (hk : k ∉ t.reorgKeys) :
    t.cache.get? k = none ∧ t.cdb.get? k = none ∧ eff t k = Hist.new (t.db.get? k) := by
  have : t.cdb.get? k = none ∧ t.cache.get? k = none := by
    simpa only [reorgKeys, List.mem_eraseDups, List.mem_append, not_or, ← AMap.get?_eq_none_iff] using hk
  exact ⟨this.2, this.1, by rw [eff_uncached this.2, disk_of_cdb_none this.1]⟩

theorem reorg_spec (W n : Nat) {t : Table K V} (nd : AMap.Nodup t.cache) :
    match t.reorg W n with
    | none => ∃ k, cut n (eff t k) = []
    | some t' => t'.cache = [] ∧ ∀ k, cut n (eff t k) ≠ [] ∧ disk t' k = settle W n (cut n (eff t k)) ∧
        t'.db.get? k = (cut n (eff t k)).latest := by
  have := reorgLoad_spec n t.reorgKeys t
  unfold Table.reorg
  split at this
  · rename_i hl; rw [hl]
    obtain ⟨k, _, hk⟩ := this
    exact ⟨k, hk⟩
  · rename_i t1 hl; rw [hl]
    obtain ⟨e1, e2, e3, e4⟩ := this
    refine ⟨rfl, fun k => ?_⟩
    rw [disk_commit W n (e3 nd), db_commit W n (e3 nd), Table.latest]
    have := e4 k
    split at this
    · rw [this.2]; exact ⟨this.1, rfl, rfl⟩
    · rename_i hk
      obtain ⟨hc, hd, he⟩ := eff_of_not_mem_reorgKeys hk
      rw [this, hc, he, cut_new, settle_new, latest_new, e1]
      exact ⟨by simp [Hist.new], by rw [disk_of_cdb_none (e2 ▸ hd), e1], rfl⟩

theorem reorg_eq_some_iff {W n : Nat} {t t' : Table K V} :
    t.reorg W n = some t' ↔ ∃ tl, t.reorgLoad n t.reorgKeys = some tl ∧ tl.commit W n = t' := by
  unfold Table.reorg; cases t.reorgLoad n t.reorgKeys <;> simp

theorem reorg_spec_some {W n : Nat} {t t' : Table K V} (nd : AMap.Nodup t.cache) (h : t.reorg W n = some t') :
    t'.cache = [] ∧ ∀ k, cut n (eff t k) ≠ [] ∧ disk t' k = settle W n (cut n (eff t k)) ∧
      t'.db.get? k = (cut n (eff t k)).latest := by
  have := reorg_spec W n nd; rwa [h] at this

theorem reorg_isSome {W n : Nat} {t : Table K V} (nd : AMap.Nodup t.cache) (hne : ∀ k, cut n (eff t k) ≠ []) :
    ∃ t', t.reorg W n = some t' := by
  have := reorg_spec W n nd
  cases h : t.reorg W n with
  | some t' => exact ⟨t', rfl⟩
  | none => rw [h] at this; obtain ⟨k, hk⟩ := this; exact absurd hk (hne k)

/-! ## the two columns stay maps -/

theorem nodup_applyWrites (t : Table K V) (ws : List (Write K V)) :
    (AMap.Nodup t.db → AMap.Nodup (t.applyWrites ws).db) ∧
      (AMap.Nodup t.cdb → AMap.Nodup (t.applyWrites ws).cdb) := by
  induction ws generalizing t with
  | nil => exact ⟨id, id⟩
  | cons w ws ih =>
    obtain ⟨h1, h2⟩ := ih (t.applyWrite w)
    cases w with
    | putCdb k h => exact ⟨h1, fun nd => h2 (AMap.nodup_insert nd k h)⟩
    | delCdb k => exact ⟨h1, fun nd => h2 (AMap.nodup_erase nd k)⟩
    | putDb k v => exact ⟨fun nd => h1 (AMap.nodup_insert nd k v), h2⟩
    | delDb k => exact ⟨fun nd => h1 (AMap.nodup_erase nd k), h2⟩

theorem nodup_step {W : Nat} {t t' : Table K V} {op : TOp K V} (hs : t.step W op = some t') :
    (AMap.Nodup t.db → AMap.Nodup t'.db) ∧ (AMap.Nodup t.cdb → AMap.Nodup t'.cdb) := by
  cases op with
  | set b k v => rw [set_some hs]; exact ⟨id, id⟩
  | unset b k => rw [unset_some hs]; exact ⟨id, id⟩
  | commit b => cases hs; exact nodup_applyWrites t _
  | clear => cases hs; exact ⟨id, id⟩
  | reorg n =>
    obtain ⟨tl, hl, rfl⟩ := reorg_eq_some_iff.mp hs
    have := reorgLoad_spec n t.reorgKeys t
    rw [hl] at this
    rw [← this.1, ← this.2.1]
    exact nodup_applyWrites tl _

end Brc20.Table
