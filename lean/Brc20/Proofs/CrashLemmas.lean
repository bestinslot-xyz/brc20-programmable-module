/-
Helper lemmas for `Brc20/Proofs/Crash.lean`: `reorg n` after a crash inside a commit, and the invariant `CacheAhead`.
-/
import Brc20.Proofs.Table
set_option linter.unusedSectionVars false

namespace Brc20.Table
variable {K V : Type} [DecidableEq K] [DecidableEq V]
open Hist

theorem crash_reorg_reads {W b n : Nat} {t : Table K V} (nd : AMap.Nodup t.cache) (x : K → Option V)
    (hold : ∀ k, Sorted (disk t k) ∧ valAt (disk t k) n = some (x k))
    (hnew : ∀ k, Sorted (disk (t.commit W b) k) ∧ valAt (disk (t.commit W b) k) n = some (x k)) (i : Nat) :
    ∃ t', (t.crashCommit W b i).reorg W n = some t' ∧ ∀ k, t'.latest k = x k := by
  refine reorg_of_valAt (t := t.crashCommit W b i) List.nodup_nil fun k => ?_
  rw [eff_of_cache_nil rfl]
  rcases disk_crashCommit W b i nd k with e | e <;> rw [e]
  · exact hold k
  · exact hnew k

/-- Every cached history is at least as new as the persisted history of its key: no persisted stamp lies above
the newest cached stamp.  True of every state reached through the API (`cacheAhead_run`): a cached history is the
persisted one, possibly extended at stamps `≥ top`.  It fails only *inside* `reorg`, between the load (which
truncates the cached copies) and the commit.  The crash theorems of Proofs/Crash.lean go through `disk` and do not
need it (`crash_recoverable` carries it as a hypothesis all the same).  What it gives is `CacheAhead.row`: for a cached
key whose history is old at `b`, the value row already holds that history's latest value. -/
def CacheAhead (t : Table K V) : Prop :=
  ∀ k h l, t.cache.get? k = some h → lastKey? h = some l → KeysLe (disk t k) l

theorem cacheAhead_of_cache_nil {t : Table K V} (hc : t.cache = []) : CacheAhead t := by
  intro k h l hg
  rw [hc] at hg
  cases hg

theorem cacheAhead_empty : CacheAhead (Table.empty : Table K V) :=
  cacheAhead_of_cache_nil rfl

theorem cacheAhead_setHist {t : Table K V} {top b : Nat} (ha : CacheAhead t) (iv : Inv t top) (hb : top ≤ b)
    (k : K) (h' : Hist V) (hh : h' = eff t k ∨ lastKey? h' = some b) :
    CacheAhead (t.setHist k h') := by
  intro k1 h1 l hg hl
  show KeysLe (disk t k1) l
  rw [cache_setHist] at hg
  by_cases hk : k1 = k
  · subst hk
    rw [if_pos rfl] at hg
    cases hg
    rcases hh with hh | hh
    · cases hc : t.cache.get? k1 with
      | some h0 =>
        rw [eff_cached hc] at hh; rw [hh] at hl
        exact ha k1 h0 l hc hl
      | none =>
        rw [eff_uncached hc] at hh; rw [hh] at hl
        exact keysLe_lastKey (disk_ok iv k1).1.sorted hl
    · rw [hh] at hl; cases hl
      exact keysLe_mono (disk_ok iv k1).1.le hb
  · rw [if_neg hk] at hg
    exact ha k1 h1 l hg hl

theorem cacheAhead_run {W : Nat} {t : Table K V} {s : TSpec K V} (h : Sim W t s) (ha : CacheAhead t)
    (ops : List (TOp K V)) (hl : TSpec.legalRun W s ops) :
    ∃ t', t.run W ops = some t' ∧ Sim W t' (s.run ops) ∧ CacheAhead t' := by
  refine run_sim_and (fun {t s} h ha op hl t' e => ?_) h ha ops hl
  cases op with
  | set b k v => rw [set_some e]; exact cacheAhead_setHist ha h.inv hl k _ (write_lastKey W _ b _)
  | unset b k => rw [unset_some e]; exact cacheAhead_setHist ha h.inv hl k _ (write_lastKey W _ b _)
  | commit b => cases e; exact cacheAhead_of_cache_nil rfl
  | clear => cases e; exact cacheAhead_of_cache_nil rfl
  | reorg n => exact cacheAhead_of_cache_nil (reorg_spec_some h.inv.cache_nodup e).1

theorem CacheAhead.row {W : Nat} {t : Table K V} {s : TSpec K V} (h : Sim W t s) (ha : CacheAhead t) {b n : Nat}
    (hw : s.maxEver ≤ n + W) (hb : b ≤ n + W + 1)
    (hdur : ∀ k, (s.cur k).valAt n = (s.dur k).valAt n)
    {k : K} {h0 : Hist V} (hg : t.cache.get? k = some h0) (ho : h0.isOld W b = true) :
    t.db.get? k = h0.latest := by
  have o0 := h.inv.cache_ok k h0 hg
  obtain ⟨l, hl, _⟩ := o0.lastKey
  have hln : l ≤ n := by
    have := (isOld_iff hl).mp ho
    omega
  have hkd : KeysLe (disk t k) n := keysLe_mono (ha k h0 l hg hl) hln
  have h1 := valAt_eq_latest (disk_ok h.inv k).1.sorted (disk_ok h.inv k).1.ne hkd
  rw [(disk_ok h.inv k).2, h.dur_eq k n hw, ← hdur k, ← h.cur_eq k n hw, eff_cached hg,
    isOld_const o0 ho hb] at h1
  simp only [Option.some.injEq] at h1
  exact h1.symm

end Brc20.Table
