/-
Association lists read as maps: `get?` sees the first binding of a key; on a duplicate-free list (`Nodup`) membership
and `get?` agree.
-/
import Brc20.Model.AMap
set_option linter.unusedSectionVars false

namespace Brc20.AMap
variable {K V : Type} [DecidableEq K]

@[simp] theorem get?_nil (k : K) : get? ([] : AMap K V) k = none := rfl

theorem get?_cons (p : K × V) (m : AMap K V) (k : K) :
    get? (p :: m) k = if p.1 = k then some p.2 else get? m k := by
  obtain ⟨a, b⟩ := p; simp [get?]

theorem get?_filter (m : AMap K V) (f : K → Bool) (k : K) :
    get? (m.filter (fun p => f p.1)) k = if f k = true then get? m k else none := by
  induction m with
  | nil => simp
  | cons p rest ih =>
    simp only [List.filter_cons]
    by_cases hp : f p.1 = true
    · simp only [hp, if_true, get?_cons, ih]
      by_cases hk : p.1 = k
      · subst hk; simp [hp]
      · simp [hk]
    · by_cases hk : p.1 = k
      · subst hk; simp [hp, ih]
      · simp [hp, ih, get?_cons, hk]

theorem erase_cons (p : K × V) (m : AMap K V) (k : K) :
    erase (p :: m) k = if p.1 = k then erase m k else p :: erase m k := by
  by_cases h : p.1 = k <;> simp [erase, h]

theorem get?_erase (m : AMap K V) (k k' : K) :
    get? (erase m k) k' = if k' = k then none else get? m k' := by
  rw [erase, get?_filter m (fun a => decide (a ≠ k))]
  by_cases h : k' = k <;> simp [h]

theorem get?_insert (m : AMap K V) (k : K) (v : V) (k' : K) :
    get? (insert m k v) k' = if k' = k then some v else get? m k' := by
  simp only [insert, get?_cons, get?_erase]
  by_cases h : k' = k
  · subst h; simp
  · have : ¬ k = k' := fun e => h e.symm
    simp [h, this]

theorem get?_eq_none_iff (m : AMap K V) (k : K) : get? m k = none ↔ k ∉ keys m := by
  induction m with
  | nil => simp [keys]
  | cons p rest ih =>
    simp only [get?_cons, keys, List.map_cons, List.mem_cons, not_or]
    by_cases h : p.1 = k
    · simp [h]
    · simp only [h, if_false]
      constructor
      · intro h1; exact ⟨fun e => h e.symm, by simpa [keys] using ih.mp h1⟩
      · intro h1; exact ih.mpr (by simpa [keys] using h1.2)

theorem mem_of_get? {m : AMap K V} {k : K} {v : V} (h : get? m k = some v) : (k, v) ∈ m := by
  induction m with
  | nil => simp at h
  | cons p rest ih =>
    rw [get?_cons] at h
    by_cases h1 : p.1 = k
    · simp [h1] at h; subst h1; subst h; simp
    · simp [h1] at h; exact List.mem_cons_of_mem _ (ih h)

theorem mem_keys_of_get? {m : AMap K V} {k : K} {v : V} (h : get? m k = some v) : k ∈ keys m :=
  List.mem_map_of_mem (f := (·.1)) (mem_of_get? h)

theorem nodup_cons_iff {p : K × V} {m : AMap K V} : Nodup (p :: m) ↔ p.1 ∉ keys m ∧ Nodup m := by
  simp [Nodup, keys, List.nodup_cons]

theorem mem_iff_get? {m : AMap K V} (nd : Nodup m) (k : K) (v : V) : (k, v) ∈ m ↔ get? m k = some v := by
  refine ⟨fun h => ?_, mem_of_get?⟩
  induction m with
  | nil => simp at h
  | cons p rest ih =>
    obtain ⟨hp, nd'⟩ := nodup_cons_iff.mp nd
    rw [get?_cons]
    rcases List.mem_cons.mp h with h1 | h1
    · subst h1; simp
    · have : p.1 ≠ k := fun e => hp (e ▸ List.mem_map_of_mem (f := (·.1)) h1)
      rw [if_neg this]; exact ih nd' h1

theorem nodup_filter {m : AMap K V} (nd : Nodup m) (f : K × V → Bool) : Nodup (m.filter f) :=
  List.Nodup.sublist (List.Sublist.map _ List.filter_sublist) nd

theorem nodup_erase {m : AMap K V} (nd : Nodup m) (k : K) : Nodup (erase m k) := nodup_filter nd _

theorem nodup_insert {m : AMap K V} (nd : Nodup m) (k : K) (v : V) : Nodup (insert m k v) := by
  refine nodup_cons_iff.mpr ⟨fun h => ?_, nodup_erase nd k⟩
  obtain ⟨p, hp, e⟩ := List.mem_map.mp h
  simpa [e] using (List.mem_filter.mp hp).2

end Brc20.AMap
