/-
Payload codec: base64 and nada round trips, limits, padding.
-/
import Brc20.Model.Payload

namespace Brc20.Payload

theorem b64Val_b64Char (n : Nat) (h : n < 64) : b64Val (b64Char n) = some n := by
  have : ∀ n : Fin 64, b64Val (b64Char n.val) = some n.val := by decide
  exact this ⟨n, h⟩

/-! The sextets the encoder cuts a group of one, two or three bytes into (value `n`) put `n` together again the way
the decoder does, and the unused bits of a short group are zero. -/
theorem sextets1 (n : Nat) : n % 4 * 16 % 16 = 0 ∧ n / 4 * 4 + n % 4 * 16 / 16 = n := by omega
theorem sextets2 (n : Nat) : n % 16 * 4 % 4 = 0 ∧ n / 1024 * 1024 + n / 16 % 64 * 16 + n % 16 * 4 / 4 = n := by omega
theorem sextets3 (n : Nat) : n / 262144 * 262144 + n / 4096 % 64 * 4096 + n / 64 % 64 * 64 + n % 64 = n := by omega

theorem b64_roundtrip (x : Bytes) : b64Decode (b64Encode x) = some x := by
  -- `rw [b64Decode]`, not `simp only [b64Decode]`: the latter unfolds by `rfl`, which the kernel re-checks by
  -- unfolding `b64Decode` on the encoder's output, and that is slow
  fun_induction b64Encode x with
  | case1 => rfl
  | case2 a n =>
    have ha : n < 256 := a.toNat_lt
    rw [b64Decode, b64Val_b64Char _ (by omega), b64Val_b64Char _ (by omega)]
    simp only [sextets1 n, if_true, UInt8.ofNat_toNat, n]
  | case3 a b n =>
    have ha := a.toNat_lt
    have hb := b.toNat_lt
    rw [b64Decode, b64Val_b64Char _ (by omega), b64Val_b64Char _ (by omega), b64Val_b64Char _ (by omega)]
    have h1 : n / 256 = a.toNat := by omega
    have h2 : n % 256 = b.toNat := by omega
    simp only [sextets2 n, if_true, h1, h2, UInt8.ofNat_toNat]
  | case4 a b c rest n ih =>
    have ha := a.toNat_lt
    have hb := b.toNat_lt
    have hc := c.toNat_lt
    rw [b64Decode, b64Val_b64Char _ (by omega), b64Val_b64Char _ (by omega), b64Val_b64Char _ (by omega),
      b64Val_b64Char _ (by omega), ih]
    have h1 : n / 65536 = a.toNat := by omega
    have h2 : n / 256 % 256 = b.toNat := by omega
    have h3 : n % 256 = c.toNat := by omega
    simp only [sextets3 n, h1, h2, h3, UInt8.ofNat_toNat]

theorem b64Char_ne_pad (n : Nat) : b64Char n ≠ '=' := by
  by_cases h : n < 64
  · have : ∀ n : Fin 64, b64Char n.val ≠ '=' := by decide
    exact this ⟨n, h⟩
  · unfold b64Char
    rw [if_neg (by omega), if_neg (by omega), if_neg (by omega), if_neg (by omega)]
    decide

theorem b64Encode_no_pad (x : Bytes) : '=' ∉ b64Encode x := by
  fun_induction b64Encode x <;>
    simp [*, (b64Char_ne_pad _).symm]

theorem stripPad_append (s t : List Char) (h : '=' ∉ s) : stripPad (s ++ t) = s ++ stripPad t := by
  induction s with
  | nil => rfl
  | cons c s ih =>
    simp only [List.mem_cons, not_or] at h
    simp [stripPad, Ne.symm h.1, ih h.2]

theorem stripPad_id (s : List Char) (h : '=' ∉ s) : stripPad s = s := by
  simpa [stripPad] using stripPad_append s [] h

/-! The nada invariant: after the encoder has consumed a prefix `p`, its (reversed) output decodes from the initial decoder
state to `p` minus the pending run (`zeroRun` zeroes or `ffRun` 0xFF bytes, never both), with the decoder not
waiting; `flush` then emits the pending run in a form the decoder expands back. -/

namespace Nada

def decFold (d : NDec) : Bytes → Option NDec
  | [] => some d
  | b :: r => (d.feed b).bind (decFold · r)

theorem decFold_append (d : NDec) (a b : Bytes) :
    decFold d (a ++ b) = (decFold d a).bind (decFold · b) := by
  induction a generalizing d with
  | nil => simp [decFold]
  | cons x a ih =>
    simp only [List.cons_append, decFold]
    cases d.feed x with
    | none => rfl
    | some d' => simpa using ih d'

theorem nadaDecodeAll_eq (d : NDec) (x : Bytes) :
    nadaDecodeAll d x = (decFold d x).bind (fun d' => if d'.waiting then none else some d'.rout.reverse) := by
  induction x generalizing d with
  | nil => simp [nadaDecodeAll, decFold]
  | cons b r ih =>
    simp only [nadaDecodeAll, decFold]
    cases d.feed b with
    | none => rfl
    | some d' => simpa using ih d'

/-- `out` (a REVERSED encoder output) decodes, from the initial state, to `p`, and the decoder is not waiting. -/
def Dec (out p : Bytes) : Prop :=
  ∃ d, decFold {} out.reverse = some d ∧ d.waiting = false ∧ d.rout.reverse = p

theorem Dec_nil : Dec [] [] := ⟨{}, rfl, rfl, rfl⟩

theorem Dec_lit {out p : Bytes} (h : Dec out p) (b : UInt8) (hb : b ≠ 0xFF) : Dec (b :: out) (p ++ [b]) := by
  obtain ⟨d, hd, hw, hp⟩ := h
  refine ⟨{ d with rout := b :: d.rout, len := d.len + 1 }, ?_, hw, by simp [hp]⟩
  rw [List.reverse_cons, decFold_append, hd]
  simp [decFold, NDec.feed, hw, hb]

/-- What `FF n` expands to. -/
def expand (n : UInt8) : Bytes :=
  if n = 1 then [0xFF] else if n = 2 then [0xFF, 0xFF] else List.replicate n.toNat 0

theorem Dec_esc {out p : Bytes} (h : Dec out p) (n : UInt8) (hn : n ≠ 0) :
    Dec (n :: 0xFF :: out) (p ++ expand n) := by
  obtain ⟨d, hd, hw, hp⟩ := h
  have hr : (n :: 0xFF :: out).reverse = out.reverse ++ [0xFF, n] := by simp
  unfold Dec
  rw [hr, decFold_append, hd]
  simp only [Option.bind_some, decFold, NDec.feed, hw]
  simp only [Bool.false_eq_true, if_false, if_true, Option.bind_some, hn]
  unfold expand
  split
  · exact ⟨_, rfl, rfl, by simp [hp]⟩
  · split
    · exact ⟨_, rfl, rfl, by simp [hp]⟩
    · exact ⟨_, rfl, rfl, by simp [hp]⟩

theorem ofNat_ne {n k : Nat} (hn : n < 256) (hk : k < 256) (h : n ≠ k) : UInt8.ofNat n ≠ UInt8.ofNat k := by
  intro e
  have := congrArg UInt8.toNat e
  rw [UInt8.toNat_ofNat_of_lt' hn, UInt8.toNat_ofNat_of_lt' hk] at this
  exact h this

theorem expand_ofNat (n : Nat) (h3 : 3 ≤ n) (h : n < 256) : expand (UInt8.ofNat n) = List.replicate n 0 := by
  have h1 : UInt8.ofNat n ≠ 1 := ofNat_ne (k := 1) h (by decide) (by omega)
  have h2 : UInt8.ofNat n ≠ 2 := ofNat_ne (k := 2) h (by decide) (by omega)
  simp only [expand, if_neg h1, if_neg h2, UInt8.toNat_ofNat_of_lt' h]

/-- Output of `flushZeroes` on a run of `z` and reversed output `r`. -/
def zOut (z : Nat) (r : Bytes) : Bytes :=
  match z with
  | 0 => r
  | 1 => 0 :: r
  | 2 => 0 :: 0 :: r
  | n => UInt8.ofNat n :: 0xFF :: r

/-- Output of `flushFF`. -/
def fOut (f : Nat) (r : Bytes) : Bytes :=
  match f with
  | 0 => r
  | 1 => 1 :: 0xFF :: r
  | _ => 2 :: 0xFF :: r

theorem flushZeroes_eq : ∀ e : NEnc, e.flushZeroes = ⟨0, e.ffRun, zOut e.zeroRun e.rout⟩
  | ⟨0, _, _⟩ | ⟨1, _, _⟩ | ⟨2, _, _⟩ | ⟨_ + 3, _, _⟩ => rfl

theorem flushFF_eq : ∀ e : NEnc, e.flushFF = ⟨e.zeroRun, 0, fOut e.ffRun e.rout⟩
  | ⟨_, 0, _⟩ | ⟨_, 1, _⟩ | ⟨_, _ + 2, _⟩ => rfl

theorem Dec_zOut {r q : Bytes} (h : Dec r q) : ∀ z, z < 256 → Dec (zOut z r) (q ++ List.replicate z 0)
  | 0, _ => by simpa [zOut] using h
  | 1, _ => Dec_lit h 0 (by decide)
  | 2, _ => by simpa [zOut] using Dec_lit (Dec_lit h 0 (by decide)) 0 (by decide)
  | n + 3, hz => by
    have := Dec_esc h (UInt8.ofNat (n + 3)) (ofNat_ne (k := 0) hz (by decide) (by omega))
    rwa [expand_ofNat _ (by omega) hz] at this

theorem Dec_fOut {r q : Bytes} (h : Dec r q) : ∀ f, f ≤ 2 → Dec (fOut f r) (q ++ List.replicate f 0xFF)
  | 0, _ => by simpa [fOut] using h
  | 1, _ => Dec_esc h 1 (by decide)
  | 2, _ => Dec_esc h 2 (by decide)

/-- The encoder invariant: the output so far decodes to the input so far minus the pending run of zeroes or of 0xFF.  The
bounds are where `feed` flushes a run: at 255 zeroes (the count is one byte), at two
0xFF. -/
def Inv (e : NEnc) (p : Bytes) : Prop :=
  e.zeroRun < 255 ∧ e.ffRun < 2 ∧ (e.zeroRun = 0 ∨ e.ffRun = 0) ∧
    ∃ q, Dec e.rout q ∧ p = q ++ List.replicate e.zeroRun 0 ++ List.replicate e.ffRun 0xFF

theorem Inv_init : Inv {} [] := ⟨by decide, by decide, Or.inl rfl, [], Dec_nil, rfl⟩

theorem runs_comm {z f : Nat} (h : z = 0 ∨ f = 0) (a b : UInt8) :
    List.replicate z a ++ List.replicate f b = List.replicate f b ++ List.replicate z a := by
  rcases h with rfl | rfl <;> simp

theorem Inv_feed {e : NEnc} {p : Bytes} (h : Inv e p) (b : UInt8) : Inv (e.feed b) (p ++ [b]) := by
  obtain ⟨z, f, r⟩ := e
  obtain ⟨hz, hf, hzf, q, hq, hp⟩ := h
  simp only at hz hf hzf hq hp
  subst hp
  unfold NEnc.feed
  simp only [NEnc.flush, flushZeroes_eq, flushFF_eq]
  split
  · next hb =>
    -- a zero: the pending 0xFF run goes out, the zero run grows; the two runs commute, one of them being empty
    subst hb
    have h1 := Dec_fOut hq f (by omega)
    have hrun : q ++ List.replicate z 0 ++ List.replicate f 0xFF ++ [0] =
        q ++ List.replicate f 0xFF ++ List.replicate (z + 1) 0 := by
      rw [List.append_assoc q, runs_comm hzf, List.replicate_succ']
      simp only [List.append_assoc]
    rw [hrun]
    split
    · exact ⟨by simp, by simp, Or.inl rfl, _, Dec_zOut h1 (z + 1) (by omega), by simp⟩
    · next h255 => exact ⟨by simp at h255 ⊢; omega, by simp, Or.inr rfl, _, h1, by simp⟩
  · split
    · next hb0 hb =>
      -- a 0xFF: the pending zero run goes out, the 0xFF run grows
      subst hb
      have h1 := Dec_zOut hq z (by omega)
      have hrun : q ++ List.replicate z 0 ++ List.replicate f 0xFF ++ [0xFF] =
          q ++ List.replicate z 0 ++ List.replicate (f + 1) 0xFF := by
        rw [List.replicate_succ']
        simp only [List.append_assoc]
      rw [hrun]
      split
      · exact ⟨by simp, by simp, Or.inl rfl, _, Dec_fOut h1 (f + 1) (by omega), by simp⟩
      · next hf2 => exact ⟨by simp, by simp at hf2 ⊢; omega, Or.inl rfl, _, h1, by simp⟩
    · next hb0 hbf =>
      have h1 := Dec_fOut (Dec_zOut hq z (by omega)) f (by omega)
      exact ⟨by simp, by simp, Or.inl rfl, _, Dec_lit h1 b hbf, by simp⟩

theorem Inv_foldl (x : Bytes) {e : NEnc} {p : Bytes} (h : Inv e p) : Inv (x.foldl NEnc.feed e) (p ++ x) := by
  induction x generalizing e p with
  | nil => simpa using h
  | cons b x ih =>
    simpa using ih (Inv_feed h b)

theorem Inv_flush {e : NEnc} {p : Bytes} (h : Inv e p) : Dec e.flush.rout p := by
  obtain ⟨hz, hf, _, q, hq, hp⟩ := h
  subst hp
  simp only [NEnc.flush, flushZeroes_eq, flushFF_eq]
  exact Dec_fOut (Dec_zOut hq _ (by omega)) _ (by omega)

theorem feed_len {d d' : NDec} {b : UInt8} (hl : d.len = d.rout.length) (h : d.feed b = some d') :
    d'.len = d'.rout.length ∧ d.len ≤ d'.len := by
  unfold NDec.feed at h
  split at h
  · split at h
    · cases h
    · split at h
      · cases h; simp [hl]
      · split at h
        · cases h; simp [hl]
        · cases h; simp [hl]; omega
  · split at h
    · cases h; simp [hl]
    · cases h; simp [hl]

theorem decodeAll_len {d : NDec} {e y : Bytes} (hl : d.len = d.rout.length) (h : nadaDecodeAll d e = some y) :
    d.len ≤ y.length := by
  induction e generalizing d with
  | nil =>
    unfold nadaDecodeAll at h
    split at h
    · cases h
    · cases h; simp [hl]
  | cons b rest ih =>
    unfold nadaDecodeAll at h
    split at h
    · cases h
    · next d' hd' =>
      have ⟨h1, h2⟩ := feed_len hl hd'
      exact Nat.le_trans h2 (ih h1 h)

/-- The decoder with a limit is the decoder without one plus a test of the output's length: the length only grows
(`feed_len`), so the test after every byte amounts to the test at the end. (With no byte there is no test: `e = []`.) -/
theorem decodeFrom_iff (limit : Nat) {d : NDec} {e y : Bytes} (hl : d.len = d.rout.length) :
    nadaDecodeFrom limit d e = some y ↔ nadaDecodeAll d e = some y ∧ (e = [] ∨ y.length < limit) := by
  induction e generalizing d with
  | nil => simp [nadaDecodeFrom, nadaDecodeAll]
  | cons b rest ih =>
    unfold nadaDecodeFrom nadaDecodeAll
    split
    · simp
    · next d' hd' =>
      have ⟨h1, _⟩ := feed_len hl hd'
      have hle := fun h => decodeAll_len (e := rest) (y := y) h1 h
      split
      · -- at the limit already, and the output can only get longer
        refine ⟨(fun h => nomatch h), fun ⟨h, hy⟩ => ?_⟩
        have := hle h
        simp at hy
        omega
      · rw [ih h1]
        refine and_congr_right fun h => ⟨fun hy => .inr ?_, fun hy => .inr (by simpa using hy)⟩
        rcases hy with rfl | hy
        · -- nothing follows: the output is what `d'` holds, which is below the limit
          unfold nadaDecodeAll at h
          split at h
          · cases h
          · cases h; simp [← h1]; omega
        · exact hy

end Nada

open Nada

theorem nada_roundtrip (x : Bytes) : nadaDecode (nadaEncode x) = some x := by
  obtain ⟨d, hd, hw, hp⟩ := Inv_flush (Inv_foldl x Inv_init)
  unfold nadaDecode nadaEncode
  rw [nadaDecodeAll_eq, hd]
  simpa [hw] using hp

theorem nada_limit_ok (limit : Nat) (e y : Bytes) (h : nadaDecode e = some y) (hl : y.length < limit) :
    nadaDecodeLimit limit e = some y :=
  (decodeFrom_iff limit rfl).mpr ⟨h, .inr hl⟩

theorem nada_limit_empty (limit : Nat) : nadaDecodeLimit limit [] = some [] := by
  simp [nadaDecodeLimit, nadaDecodeFrom]

/-- never an output of `limit` bytes or more, however small the input (decompression bombs) -/
theorem nada_limit_bounded (limit : Nat) (e y : Bytes) (h : nadaDecodeLimit limit e = some y) (hl : 0 < limit) :
    y.length < limit := by
  obtain ⟨h1, rfl | h2⟩ := (decodeFrom_iff limit rfl).mp h
  · cases h1; exact hl
  · exact h2

end Brc20.Payload
