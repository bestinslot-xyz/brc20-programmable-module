/-
Range scans and full scans of the versioned table model return exactly the readable pairs, in key order.  A scan is
thereby determined by what the table reads, whatever the iteration order of the in-memory `HashMap`:
`C13.range_scan_order_independent`.
-/
import Brc20.Proofs.ScanLemmas
set_option linter.unusedSectionVars false

namespace Brc20.Table
variable {K V : Type} [DecidableEq K] [DecidableEq V]

/-- `lt` is a strict total order on keys (byte-lexicographic order on encoded keys is one: `bytesLt_*`). -/
structure StrictTotal (lt : K → K → Bool) : Prop where
  irrefl : ∀ a, lt a a = false
  trans : ∀ a b c, lt a b = true → lt b c = true → lt a c = true
  total : ∀ a b, lt a b = true ∨ a = b ∨ lt b a = true

/-- The two RocksDB columns never hold a key twice (they are maps); preserved by every operation
(`Table.nodup_step`, `C13.columns_stay_maps`). -/
def ColsNodup (t : Table K V) : Prop := AMap.Nodup t.db ∧ AMap.Nodup t.cdb

theorem colsNodup_empty : ColsNodup (Table.empty : Table K V) :=
  ⟨List.nodup_nil, List.nodup_nil⟩

theorem scan_core {t : Table K V} (hc : AMap.Nodup t.cache) (hd : AMap.Nodup t.db) (f : K → Bool) :
    let m := overlay (t.db.filter (fun p => f p.1)) (t.cache.filter (fun p => f p.1))
    AMap.Nodup m ∧ ∀ k, AMap.get? m k = if f k = true then t.latest k else none := by
  refine ⟨nodup_overlay _ _ (AMap.nodup_filter hd _), ?_⟩
  intro k
  rw [get?_overlay _ (AMap.nodup_filter hc _), AMap.get?_filter, AMap.get?_filter]
  by_cases hf : f k = true
  · simp only [hf, if_true, latest]
    cases AMap.get? t.cache k <;> rfl
  · simp [hf]

theorem all_core {t : Table K V} (hc : AMap.Nodup t.cache) (hd : AMap.Nodup t.db) :
    AMap.Nodup (overlay t.db t.cache) ∧ ∀ k, AMap.get? (overlay t.db t.cache) k = t.latest k :=
  ⟨nodup_overlay _ _ hd, fun k => by rw [get?_overlay _ hc]; rfl⟩

theorem mem_getRange {lt : K → K → Bool} {t : Table K V}
    (hc : AMap.Nodup t.cache) (hd : AMap.Nodup t.db) (lo hi k : K) (v : V) :
    (k, v) ∈ t.getRange lt lo hi ↔ (lt k lo = false ∧ lt k hi = true ∧ t.latest k = some v) := by
  obtain ⟨nd, hg⟩ := scan_core hc hd (fun k => !lt k lo && lt k hi)
  unfold getRange
  simp only
  rw [mem_sortByKey, AMap.mem_iff_get? nd, hg]
  cases h1 : lt k lo <;> cases h2 : lt k hi <;> simp

theorem getRange_sorted {lt : K → K → Bool} (st : StrictTotal lt) {t : Table K V}
    (hc : AMap.Nodup t.cache) (hd : AMap.Nodup t.db) (lo hi : K) :
    (t.getRange lt lo hi).Pairwise (fun a b => lt a.1 b.1 = true) := by
  obtain ⟨nd, _⟩ := scan_core hc hd (fun k => !lt k lo && lt k hi)
  exact sortByKey_pairwise st.trans st.total _ nd

theorem all_sorted {lt : K → K → Bool} (st : StrictTotal lt) {t : Table K V}
    (hc : AMap.Nodup t.cache) (hd : AMap.Nodup t.db) :
    (t.all lt).Pairwise (fun a b => lt a.1 b.1 = true) := by
  exact sortByKey_pairwise st.trans st.total _ (all_core hc hd).1

end Brc20.Table
