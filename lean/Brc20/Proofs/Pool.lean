/-
The pending pool of every reachable node (`account_and_nonce_to_tx_hash`).

Since `Model/Node.lean` accepts a `set` of a pending-table row only from a parked submission, and only with the
height being built as the block number inside the row (`parkedShape`), every version of every key that the table
holds anywhere - cache, history column, value column - carries its own stamp as block number, and was replaced (or is
still in force) at most `MAX_FUTURE_TRANSACTION_BLOCKS` blocks after it was parked (`Pool.Chain`). This is what
survives `clear`, a restart and `reorg`: a rollback to `target` truncates every history at `target`, and the version
that comes back into force was replaced by a write of a block above `target`, hence is younger than 10 blocks at
`target`.

`Pool.Chain` is the invariant of one history, `Pool.TOk` that of the table, `Node.PInv` that of the node; it holds on
every reachable node (`Reach.pinv`). Hence every readable row of a reachable node was parked at most at the height
being built and fewer than 10 blocks before the latest block, mid-block included (`Reach.pool_rows`).
-/
import Brc20.Proofs.ReachProps

namespace Brc20
open Node Hist

namespace Pool

/-- a valid version: stamped `b` and in force up to (excluding) height `u`, it carries `b` as its block number and `u`
is at most 10 blocks later -/
def Val (x : Option String) (b u : Nat) : Prop :=
  ∀ v, x = some v → parkedBlock v = some b ∧ u ≤ b + FUTURE_BLOCKS

/-- the stamp of the next version, `N` (the height being built) for the newest one -/
def nextStamp (rest : Hist String) (N : Nat) : Nat :=
  match rest with
  | [] => N
  | e :: _ => e.1

/-- every version carries its own stamp and was replaced - or, the newest one, is in force at height `N` - at most
10 blocks after its stamp -/
def Chain : Hist String → Nat → Prop
  | [], _ => True
  | (b, x) :: rest, N => Val x b (nextStamp rest N) ∧ Chain rest N

theorem Val.anti {x : Option String} {b u u' : Nat} (h : Val x b u) (hu : u' ≤ u) : Val x b u' :=
  fun v hv => ⟨(h v hv).1, Nat.le_trans hu (h v hv).2⟩

theorem nextStamp_cons (e : Nat × Option String) (rest : Hist String) (N : Nat) : nextStamp (e :: rest) N = e.1 := rfl

theorem chain_new_none (N : Nat) : Chain (Hist.new none) N := ⟨fun _ h => (nomatch h), trivial⟩

/-- A chain seen from its newest version: the height `N` only matters to that one. -/
theorem chain_concat (h : Hist String) (l : Nat) (x : Option String) (N : Nat) :
    Chain (h ++ [(l, x)]) N ↔ Chain h l ∧ Val x l N := by
  induction h with
  | nil => exact ⟨fun c => ⟨trivial, c.1⟩, fun c => ⟨c.2, trivial⟩⟩
  | cons e rest ih =>
    obtain ⟨b, y⟩ := e
    have hn : nextStamp (rest ++ [(l, x)]) N = nextStamp rest l := by cases rest <;> rfl
    rw [List.cons_append, Chain, Chain, hn, ih, and_assoc]

theorem Chain.anti {h : Hist String} {N N' : Nat} (c : Chain h N) (hn : N' ≤ N) : Chain h N' := by
  rcases nil_or_concat h with rfl | ⟨init, l, x, rfl⟩
  · trivial
  · rw [chain_concat] at c ⊢
    exact ⟨c.1, c.2.anti hn⟩

theorem Chain.last {h : Hist String} {N : Nat} (c : Chain h N) {l : Nat} (hl : lastKey? h = some l) :
    Val (latest h) l N := by
  rcases nil_or_concat h with rfl | ⟨init, l', x, rfl⟩
  · cases hl
  · rw [lastKey?_concat] at hl
    cases hl
    rw [latest_concat]
    exact ((chain_concat ..).mp c).2

theorem Chain.bump {h : Hist String} {N N' : Nat} (c : Chain h N)
    (hf : ∀ v, latest h = some v → ∃ pb, parkedBlock v = some pb ∧ N' ≤ pb + FUTURE_BLOCKS) : Chain h N' := by
  rcases nil_or_concat h with rfl | ⟨init, l, x, rfl⟩
  · trivial
  · rw [chain_concat] at c ⊢
    refine ⟨c.1, fun v hv => ?_⟩
    obtain ⟨pb, h1, h2⟩ := hf v (by rw [latest_concat]; exact hv)
    have hl := (c.2 v hv).1
    rw [hl] at h1
    cases h1
    exact ⟨hl, h2⟩

theorem Chain.put {h : Hist String} {N : Nat} (c : Chain h N) (x : Option String) (hx : Val x N N) :
    Chain (put h N x) N := by
  rcases nil_or_concat h with rfl | ⟨init, l, y, rfl⟩
  · exact ⟨hx, trivial⟩
  · rw [put_concat]
    split
    · rename_i hl
      subst hl
      exact (chain_concat ..).mpr ⟨((chain_concat ..).mp c).1, hx⟩
    · exact (chain_concat ..).mpr ⟨c, hx⟩

theorem Chain.prune {h : Hist String} {N : Nat} (c : Chain h N) (W b : Nat) : Chain (prune W h b) N := by
  fun_induction Hist.prune W h b with
  | case1 e₁ e₂ rest _ ih => exact ih c.2
  | case2 => exact c
  | case3 => exact c

theorem Chain.write {h : Hist String} {N : Nat} (c : Chain h N) {x : Option String} (hx : Val x N N) (W : Nat) :
    Chain (Hist.write W h N x) N := by
  unfold Hist.write
  split
  · exact c
  · exact (c.put x hx).prune _ _

theorem nextStamp_filter_le {h : Hist String} (s : Sorted h) (N n : Nat) :
    nextStamp (h.filter (fun e => decide (e.1 ≤ n))) (min N (n + 1)) ≤ nextStamp h N := by
  cases h with
  | nil => exact Nat.min_le_left _ _
  | cons r rs =>
    by_cases hr : r.1 ≤ n
    · rw [List.filter_cons_of_pos (by exact decide_eq_true hr)]
      exact Nat.le_refl _
    · simp only [s.cut_cons_of_lt (Nat.lt_of_not_le hr)]
      exact Nat.le_trans (Nat.min_le_right _ _) (Nat.lt_of_not_le hr)

theorem Chain.filter {h : Hist String} {N : Nat} (c : Chain h N) (s : Sorted h) (n : Nat) :
    Chain (h.filter (fun e => decide (e.1 ≤ n))) (min N (n + 1)) := by
  induction h with
  | nil => trivial
  | cons e rest ih =>
    obtain ⟨b, x⟩ := e
    by_cases he : b ≤ n
    · rw [List.filter_cons_of_pos (by exact decide_eq_true he)]
      exact ⟨c.1.anti (nextStamp_filter_le s.tail N n), ih c.2 s.tail⟩
    · simp only [s.cut_cons_of_lt (Nat.lt_of_not_le he)]
      trivial

/-- an old history (`isOld`: newest stamp more than `W` blocks below `b`) of a pool key holds no transaction:
`MAX_FUTURE_TRANSACTION_BLOCKS ≤ MAX_REORG_HISTORY_SIZE` -/
theorem Chain.old_latest_none {h : Hist String} {N b : Nat} (c : Chain h N) (hb : b ≤ N)
    (ho : isOld Node.W h b = true) : latest h = none := by
  cases hl : lastKey? h with
  | none => rw [lastKey?_none hl]; rfl
  | some l =>
    cases hv : latest h with
    | none => rfl
    | some v =>
      have := (c.last hl v hv).2
      have ho := (isOld_iff hl).mp ho
      unfold Node.W at ho
      unfold FUTURE_BLOCKS at this
      omega

theorem Chain.settle {h : Hist String} {N b : Nat} (c : Chain h N) (hb : b ≤ N) : Chain (settle Node.W b h) N := by
  unfold Hist.settle
  split
  · rename_i ho
    rw [c.old_latest_none hb ho]; exact chain_new_none N
  · exact c

theorem Chain.mem {h : Hist String} {N : Nat} (c : Chain h N) {b : Nat} {v : String} (hm : (b, some v) ∈ h) :
    parkedBlock v = some b := by
  induction h with
  | nil => cases hm
  | cons e rest ih =>
    rcases List.mem_cons.mp hm with e1 | e1
    · subst e1; exact (c.1 v rfl).1
    · exact ih c.2 e1

/-- the table is in order: every history a write would act on is a chain up to the height being built `N`; every
history a restart would find is a chain up to the height `D` a restart continues at -/
structure TOk (t : Table String String) (N D : Nat) : Prop where
  eff : ∀ k, Chain (t.retrieve k) N
  disk : ∀ k, Chain (Table.disk t k) D

theorem TOk.init (N D : Nat) : TOk ({} : Table String String) N D :=
  ⟨fun _ => chain_new_none N, fun _ => chain_new_none D⟩

theorem TOk.of_cache_nil {t : Table String String} {N : Nat} (hc : t.cache = []) (hd : ∀ k, Chain (Table.disk t k) N) :
    TOk t N N :=
  ⟨fun k => by rw [show t.retrieve k = Table.disk t k from Table.eff_of_cache_nil hc k]; exact hd k, hd⟩

theorem TOk.step {t t' : Table String String} {N D : Nat} (o : TOk t N D) {k : String} {x : Option String}
    (hx : ∀ v, x = some v → parkedBlock v = some N) (hs : t.step W (Ghost.wop N k x) = some t') : TOk t' N D := by
  rw [Table.step_wop hs]
  refine ⟨fun k' => ?_, o.disk⟩
  show Chain (Table.eff _ k') N
  rw [Table.eff_setHist]
  split
  · exact (o.eff k).write (fun v hv => ⟨hx v hv, Nat.le_add_right _ _⟩) W
  · exact o.eff k'

theorem TOk.clear {t : Table String String} {N D : Nat} (o : TOk t N D) : TOk t.clear D D :=
  TOk.of_cache_nil rfl o.disk

theorem TOk.commit {t : Table String String} {N : Nat} (he : ∀ k, Chain (t.retrieve k) N)
    (nd : AMap.Nodup t.cache) {b : Nat} (hb : b ≤ N) : TOk (t.commit Node.W b) N N :=
  TOk.of_cache_nil rfl fun k => by
    rcases Table.disk_commit_cases Node.W b nd k with e | e <;> rw [e]
    · exact he k
    · exact (he k).settle hb

theorem TOk.reorg {t t' : Table String String} {top N D n N' : Nat} (o : TOk t N D) (i : Table.Inv t top)
    (h : t.reorg Node.W n = some t') (h1 : N' ≤ N) (h2 : N' ≤ n + 1) (h3 : n ≤ N') :
    TOk t' N' N' ∧ t'.cache = [] := by
  obtain ⟨hc, hk⟩ := Table.reorg_spec_some i.cache_nodup h
  refine ⟨TOk.of_cache_nil hc fun k => ?_, hc⟩
  rw [(hk k).2.1]
  exact (((o.eff k).filter (Table.eff_ok i k).sorted n).anti (by omega)).settle h3

theorem TOk.row {t : Table String String} {top N D : Nat} (o : TOk t N D) (i : Table.Inv t top) (htop : top ≤ N)
    {k v : String} (hl : t.latest k = some v) :
    ∃ pb, parkedBlock v = some pb ∧ pb ≤ N ∧ N ≤ pb + FUTURE_BLOCKS := by
  rw [Table.latest_eff i k] at hl
  obtain ⟨l, hk, hle⟩ := (Table.eff_ok i k).lastKey
  have := (o.eff k).last hk v hl
  exact ⟨l, this.1, Nat.le_trans hle htop, this.2⟩

end Pool

namespace Node
open Pool BlockDb

theorem noPendingSet_not_mem {evs : List Ev} (h : noPendingSet evs = true) {st : Nat} {k v : String} :
    Ev.s TId.pending.name st k (some v) ∉ evs := by
  intro hm
  unfold noPendingSet at h
  -- what the check says of this event: its table is not the pending table
  have := List.all_eq_true.mp h _ hm
  simp only [bne_self_eq_false, Bool.false_eq_true] at this

theorem parkedShape_spec {sender : String} {nonce bn : Nat} {evs : List Ev}
    (h : parkedShape sender nonce bn evs = true) {st : Nat} {k : String} {x : Option String}
    (hm : Ev.s TId.pending.name st k x ∈ evs) :
    k = sender ++ hexN 16 nonce ∧ ∃ v, x = some v ∧ parkedBlock v = some bn := by
  have hmem : (TId.pending.name, k, x) ∈ tableWrites evs := List.mem_filterMap.mpr ⟨_, hm, rfl⟩
  unfold parkedShape at h
  split at h
  · rename_i t1 k1 v1 t2 k2 v2 heq
    rw [heq] at hmem
    simp only [List.mem_cons, Prod.mk.injEq, List.not_mem_nil, or_false] at hmem
    simp only [Bool.or_eq_true, Bool.and_eq_true, beq_iff_eq] at h
    have hne : TId.pendingTxid.name ≠ TId.pending.name := fun e => TId.noConfusion (TId.name_inj e)
    rcases h with ⟨⟨⟨h1, h2⟩, h3⟩, h4⟩ | ⟨⟨⟨h1, h2⟩, h3⟩, h4⟩
    · rcases hmem with ⟨a, b, c⟩ | ⟨a, b, c⟩
      · subst b; subst c; exact ⟨h3, v1, rfl, h4⟩
      · exact absurd (h2.symm.trans a.symm) hne
    · rcases hmem with ⟨a, b, c⟩ | ⟨a, b, c⟩
      · exact absurd (h1.symm.trans a.symm) hne
      · subst b; subst c; exact ⟨h3, v2, rfl, h4⟩
  · cases h

/-- every recorded `set` of a pending-table row stamped `e` carries `e` as its block number too -/
def SetsCarry (e : Nat) (evs : List Ev) : Prop :=
  ∀ k v, Ev.s TId.pending.name e k (some v) ∈ evs → parkedBlock v = some e

theorem setsCarry_of_noPendingSet {evs : List Ev} (h : noPendingSet evs = true) (e : Nat) : SetsCarry e evs :=
  fun _ _ hm => absurd hm (noPendingSet_not_mem h)

theorem setsCarry_of_parkedShape {sender : String} {nonce bn : Nat} {evs : List Ev}
    (h : parkedShape sender nonce bn evs = true) : SetsCarry bn evs := by
  intro k v hm
  obtain ⟨_, v', e, hv⟩ := parkedShape_spec h hm
  cases e; exact hv

theorem _root_.Brc20.Pool.TOk.events {n n' : Node} {e D : Nat} {evs : List Ev} (o : TOk (n.t .pending) e D)
    (ha : applyEvents n e evs = some n') (hs : SetsCarry e evs) : TOk (n'.t .pending) e D :=
  applyEvents_table (i := .pending) (motive := fun t => TOk t e D)
    (fun _ k _ _ o hm ht => o.step (fun v hv => hs k v (hv ▸ hm)) ht) ha o

theorem applyEvents_pending_latest {n n' : Node} {e : Nat} {evs : List Ev} (ha : applyEvents n e evs = some n')
    {k v : String} (hl : (n'.t .pending).latest k = some v) :
    (n.t .pending).latest k = some v ∨ Ev.s TId.pending.name e k (some v) ∈ evs := by
  refine applyEvents_table (i := .pending)
    (motive := fun t => t.latest k = some v → (n.t .pending).latest k = some v ∨ _) ?_ ha Or.inl hl
  intro t k0 x t' ih hm ht hl
  rw [Table.latest_step_wop ht] at hl
  split at hl
  · rename_i hk
    subst hk hl
    exact Or.inr hm
  · exact ih hl

theorem applyEvents_pending_removed {n n' : Node} {e : Nat} {evs : List Ev} (hs : noPendingSet evs = true)
    (ha : applyEvents n e evs = some n') {k v : String} (hl : (n'.t .pending).latest k = some v) :
    (n.t .pending).latest k = some v :=
  (applyEvents_pending_latest ha hl).resolve_right (noPendingSet_not_mem hs)

/-- `TOk` of the pending table (`account_and_nonce_to_tx_hash`) at the height being built and the height a restart
continues at (`P`: pool). -/
structure PInv (n : Node) : Prop where
  ok : TOk (n.t .pending) n.nextHeight n.durNext

theorem PInv.init : PInv ({} : Node) := ⟨TOk.init _ _⟩

theorem PInv.of_heights {n n' : Node} (hb : n'.b = n.b) (hl : n'.latest = n.latest)
    (o : TOk (n'.t .pending) n.nextHeight n.durNext) : PInv n' := by
  have hdn : n'.durNext = n.durNext := by unfold durNext; rw [hb]
  exact ⟨by rw [nextHeight_congr hb hl, hdn]; exact o⟩

theorem PInv.congr {n n' : Node} (h : PInv n) (ht : n'.t .pending = n.t .pending) (hb : n'.b = n.b)
    (hl : n'.latest = n.latest) : PInv n' :=
  .of_heights hb hl (ht ▸ h.ok)

theorem PInv.events {n n' : Node} {evs : List Ev} (h : PInv n) (ha : applyEvents n n.nextHeight evs = some n')
    (hs : SetsCarry n.nextHeight evs) (hb : n'.b = n.b) : PInv n' :=
  .of_heights hb (applyEvents_fields ha).2.1 (h.ok.events ha hs)

theorem PInv.tx {n n' : Node} (h : PInv n) {ts : Nat} {hash : String} {txid : Option String} {evs : List Ev}
    {k : Option Nat} (a : TxAccepted n ts hash txid evs k n') (l : Lbi) : PInv { n' with lbi := l } :=
  (h.events a.applied (setsCarry_of_noPendingSet a.noPendingSet _)
    (applyEvents_noBlock_frame a.noBlock a.applied)).congr rfl rfl rfl

theorem PInv.parked {n n' : Node} (h : PInv n) {sender : String} {nonce : Nat} {evs : List Ev}
    (hp : poolOnly evs = true) (hs : parkedShape sender nonce n.nextHeight evs = true)
    (ha : applyEvents n n.nextHeight evs = some n') : PInv n' :=
  h.events ha (setsCarry_of_parkedShape hs) (applyEvents_pool_frame hp ha)

theorem finalised_durNext (n' : Node) (bn : Nat) (hash : String) : (finalised n' bn hash).durNext = n'.durNext := rfl

/-- the height moves on: `clear_txpool` has left no row parked 10 or more blocks ago (`poolFreshAt`) -/
theorem PInv.fin {n n' : Node} {G : Ghost} (h : PInv n) (r : RInv n G) {hash : String} {evs : List Ev}
    (f : FinAccepted n hash evs n') : PInv (finalised n' n.nextHeight hash) := by
  have o := h.ok.events f.applied (setsCarry_of_noPendingSet f.noPendingSet _)
  have hi := ((r.core.events f.applied).sim .pending).inv
  refine ⟨⟨fun k => (o.eff k).bump fun v hv => ?_, ?_⟩⟩
  · rw [finalised_nextHeight]
    exact poolFreshAt_spec f.fresh k v ((Table.latest_eff hi k).trans hv)
  · rw [finalised_durNext, (applyEvents_bstep f.applied).durNext]
    exact o.disk

theorem PInv.clear {n : Node} (h : PInv n) : PInv (n.clear).1 :=
  ⟨by rw [clear_nextHeight]; exact h.ok.clear⟩

theorem Prim.pinv {n n' : Node} {G G' : Ghost} (p : Prim n G n' G') (r : RInv n G) (h : PInv n) : PInv n' := by
  cases p with
  | tx a => exact h.tx a _
  | parked _ _ _ hp hs ha => exact h.parked hp hs ha
  | fin f => exact h.fin r f
  | clear => exact h.clear

theorem PInv.steps {n n' : Node} {G G' : Ghost} (h : PInv n) (r : RInv n G) (s : Steps n G n' G') : PInv n' :=
  (s.ind (I := fun n G => RInv n G ∧ PInv n) (fun p h => ⟨p.rinv h.1, p.pinv h.1 h.2⟩) ⟨r, h⟩).2

theorem PInv.initialise {n : Node} {G : Ghost} (h : PInv n) (r : RInv n G) (hash0 : String) (ts height : Nat)
    (evs : List Ev) : PInv (n.initialise hash0 ts height evs).1 :=
  h.steps r ((Op.initialise hash0 ts height evs).steps rfl n G)

theorem PInv.addRawTx {n : Node} (h : PInv n) (ts : Nat) (hash0 : String) (idx : Nat) (txid : String)
    (dec : RawDecode) (evs : List Ev) : PInv (n.addRawTx ts hash0 idx txid dec evs).1 := by
  rcases addRawTx_cases n ts hash0 idx txid dec evs with e | ⟨_, _, _, _, _, _, hp, hs, ha, _⟩ | ⟨_, _, _, hok, e⟩
  · rw [e]; exact h
  · exact h.parked hp hs ha
  · obtain ⟨_, n', a, hn⟩ := addTxs_accepted hok
    rw [e, hn]; exact h.tx a _

/-- The height after `commitAll` is read off the hash table (`commitAll_nextHeight`); that it is the height being
built before is `Reach.heights`, the one place where a step of `PInv` needs `Reach n` and not only `RInv`. -/
theorem PInv.commit {n : Node} {G : Ghost} (h : PInv n) (hr : Reach n) (r : RInv n G) : PInv n.commit.1 := by
  by_cases hw : n.lbi.waiting = 0
  · rw [commit_of_boundary hw]
    refine ⟨?_⟩
    rw [durNext_of_commitPoint rfl rfl, commitAll_nextHeight, ← hr.heights.2]
    exact TOk.commit h.ok.eff (r.core.sim .pending).inv.cache_nodup (Nat.le_refl _)
  · rw [commit_of_waiting hw]; exact h

/-- `reorg`: every history is cut at `target`; the height being built afterwards is `target + 1` (or stays `0` on
an empty database) -/
theorem PInv.reorg {n : Node} {G : Ghost} (h : PInv n) (r : RInv n G) (target : Nat) : PInv (n.reorg target).1 := by
  by_cases hok : (n.reorg target).2 = .ok
  · obtain ⟨_, h1, h2, h3⟩ := r.core.reorg_heights hok
    obtain ⟨f, hf, e⟩ := reorg_ok_eq hok
    obtain ⟨o, hc⟩ := h.ok.reorg (r.core.sim .pending).inv (hf .pending) h3 h2 h1
    rw [e] at o ⊢
    refine ⟨?_⟩
    rw [durNext_of_commitPoint rfl rfl]
    show TOk ((f .pending).commit W _) _ _
    rw [Table.commit_of_cache_nil hc]
    exact o
  · rw [reorg_fst_of_ne_ok hok]; exact h

theorem PInv.step {n : Node} (h : PInv n) (hr : Reach n) (op : Op) : PInv (op.run n).1 := by
  obtain ⟨G, r⟩ := hr.inv
  cases op with
  | commit => exact h.commit hr r
  | reorg target => exact h.reorg r target
  | _ => exact h.steps r (Op.steps _ rfl n G)

theorem Reach.pinv {n : Node} (h : Reach n) : PInv n := by
  induction h with
  | init => exact PInv.init
  | step op hr _ ih => exact ih.step hr op

theorem Reach.pool_rows {n : Node} (h : Reach n) {k v : String} (hl : (n.t .pending).latest k = some v) :
    ∃ pb, parkedBlock v = some pb ∧ pb ≤ n.nextHeight ∧ n.nextHeight ≤ pb + FUTURE_BLOCKS ∧
      n.latestHeight < pb + FUTURE_BLOCKS := by
  obtain ⟨G, r⟩ := h.inv
  obtain ⟨pb, h1, h2, h3⟩ := h.pinv.ok.row (r.core.sim .pending).inv (r.core.top_le .pending) hl
  refine ⟨pb, h1, h2, h3, ?_⟩
  rw [latestHeight_eq_pred]
  unfold FUTURE_BLOCKS at h3 ⊢
  omega

end Node
end Brc20
