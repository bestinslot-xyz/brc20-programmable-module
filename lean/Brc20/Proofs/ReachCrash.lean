/-
The engine-level crash theorems (Proofs/NodeCrash.lean) for every reachable state: their hypotheses are derived from
`ReachG n G` (Proofs/Ops.lean), a block boundary and conditions on the target that the caller can check.
The invariant that gives them is `Node.DInv`: everything since the last commit point lies at or above the durable
height `durNext` (the height a restart would continue at, read off the persisted hash rows).  It holds because every
recorded write carries the height being built (`applyS` refuses any other stamp), that height never drops below
`durNext` between commit points, and a commit point (`commit`, accepted `reorg`) makes the current log the durable one
and empties the caches; `clear` / reopen return to the durable log.
-/
import Brc20.Proofs.NodeCrash
import Brc20.Proofs.ReachProps
import Brc20.Proofs.Scenario

namespace Brc20
open Node

namespace Node
open BlockDb (Contig nextOf)

theorem durNext_le_of_latest_none {n : Node} (hl : n.latest = none) : n.durNext ≤ n.nextHeight := by
  rw [nextHeight_eq, hl]
  exact BlockDb.nextOf_clear_le _

/-! ## the invariant, relative to a fixed durable height `D` while an operation is in progress -/

structure DAt (n : Node) (G : Ghost) (D : Nat) : Prop where
  cache_above : ∀ i p, p ∈ (n.b i).cache → D ≤ p.1
  dur_same : ∀ i k m, m < D → ((G.s i).cur k).valAt m = ((G.s i).dur k).valAt m

theorem DAt.write {n : Node} {G : Ghost} {e D : Nat} (c : CoreAt n G e) (h : DAt n G D) (hD : D ≤ e) (i : TId)
    (k : String) (v : Option String) (t' : Table String String) :
    DAt (n.setT i t') (G.upd i (Ghost.wop e k v)) D := by
  refine ⟨h.cache_above, fun j key m hm => ?_⟩
  show ((if j = i then (G.s i).step (Ghost.wop e k v) else G.s j).cur key).valAt m =
    ((if j = i then (G.s i).step (Ghost.wop e k v) else G.s j).dur key).valAt m
  by_cases hj : j = i
  · subst hj
    have hcur : ((G.s j).step (Ghost.wop e k v)).cur =
        TSpec.upd (G.s j).cur k (TSpec.logWrite ((G.s j).cur k) e v) := by cases v <;> rfl
    rw [if_pos rfl, wop_dur, ← h.dur_same j key m hm, hcur]
    unfold TSpec.upd
    by_cases hk : key = k
    · subst hk
      rw [if_pos rfl, Table.valAt_logWrite ((c.sim j).cur_ok key).1 (c.top_le j) v m, if_neg (by omega)]
    · rw [if_neg hk]
  · rw [if_neg hj]; exact h.dur_same j key m hm

theorem DAt.row {n : Node} {G : Ghost} {e D : Nat} (h : DAt n G D) (hD : D ≤ e) (i : BId) (x : String) :
    DAt (n.setB i ((n.b i).set e x)) G D := by
  refine ⟨fun j p hp => ?_, h.dur_same⟩
  by_cases hj : j = i
  · subst hj
    simp only [setB, if_true] at hp
    rcases BlockDb.mem_cache_set hp with h1 | h1
    · rw [h1]; exact hD
    · exact h.cache_above j p h1
  · simp only [setB, hj, if_false] at hp
    exact h.cache_above j p hp

theorem DAt.events {n n' : Node} {G : Ghost} {e D : Nat} {evs : List Ev} (c : CoreAt n G e) (h : DAt n G D)
    (hD : D ≤ e) (ha : applyEvents n e evs = some n') : DAt n' (G.events evs) D :=
  (applyEvents_induction (motive := fun n G => CoreAt n G e ∧ DAt n G D)
    (fun _ _ i k v t' h _ ht => ⟨h.1.write i k v ht, h.2.write h.1 hD i k v t'⟩)
    (fun _ _ i _ x h _ _ => ⟨h.1.row i x, h.2.row hD i x⟩) ha ⟨c, h⟩).2

/-! ## the invariant of reachable nodes -/

/-- Everything since the last commit point lies at or above the durable height. -/
structure DInv (n : Node) (G : Ghost) : Prop where
  dn_le : n.durNext ≤ n.nextHeight
  at_ : DAt n G n.durNext

/-- The recorded writes of one call, on a node that then only changes heights / block info (`n''`).  The writes go to
caches only, so `durNext` stays, and they are stamped with the height being built, which is at or above it. -/
theorem DInv.events {n n' n'' : Node} {G : Ghost} {evs : List Ev} (r : RInv n G) (h : DInv n G)
    (ha : applyEvents n n.nextHeight evs = some n') (hb : n''.b = n'.b) (hnx : n.nextHeight ≤ n''.nextHeight) :
    DInv n'' (G.events evs) := by
  have hd : n''.durNext = n.durNext := by
    rw [← (applyEvents_bstep ha).durNext]; unfold durNext; rw [hb]
  have hat := h.at_.events r.core h.dn_le ha
  refine ⟨by rw [hd]; exact Nat.le_trans h.dn_le hnx, ?_⟩
  rw [hd]
  exact ⟨by rw [hb]; exact hat.cache_above, hat.dur_same⟩

theorem DInv.of_commit_point {n : Node} {G : Ghost} (hl : n.latest = none) (hc : ∀ i, (n.b i).cache = [])
    (hcd : ∀ i, (G.s i).cur = (G.s i).dur) : DInv n G :=
  ⟨durNext_le_of_latest_none hl, ⟨fun i p hp => (by rw [hc i] at hp; cases hp), fun i k m _ => by rw [hcd i]⟩⟩

theorem DInv.init : DInv ({} : Node) Ghost.init := .of_commit_point rfl (fun _ => rfl) (fun _ => rfl)

theorem DInv.commit {n : Node} {G : Ghost} (h : DInv n G) : DInv n.commit.1 (gCommit n G) := by
  unfold gCommit
  by_cases hw : n.lbi.waiting = 0
  · rw [commit_of_boundary hw, if_neg (not_not_intro hw)]
    exact DInv.of_commit_point rfl (fun _ => rfl) (fun _ => rfl)
  · rw [commit_of_waiting hw, if_pos hw]; exact h

theorem DInv.clear {n : Node} {G : Ghost} (r : RInv n G) : DInv (n.clear).1 G.clear := by
  apply DInv.of_commit_point rfl (fun _ => rfl)
  intro i
  have := r.core.dur_coh i
  show (G.d i).cur = (G.d i).dur
  exact this.1.trans this.2.symm

theorem DInv.reorg {n : Node} {G : Ghost} (h : DInv n G) (target : Nat) :
    DInv (n.reorg target).1 (gReorg n G target) := by
  unfold gReorg
  by_cases hok : (n.reorg target).2 = .ok
  · rw [if_pos hok]
    obtain ⟨_, n1, _, e⟩ := reorg_ok n target hok
    rw [e]
    exact DInv.of_commit_point rfl (fun _ => rfl) (fun _ => rfl)
  · rw [if_neg hok, reorg_fst_of_ne_ok hok]; exact h

theorem Prim.dinv {n n' : Node} {G G' : Ghost} (p : Prim n G n' G') (r : RInv n G) (h : DInv n G) : DInv n' G' := by
  cases p with
  | tx a => exact h.events r a.applied rfl (applyEvents_bstep a.applied).nextHeight_le
  | parked _ _ _ _ _ ha => exact h.events r ha rfl (applyEvents_bstep ha).nextHeight_le
  | fin f => exact h.events r f.applied rfl (Nat.le_succ _)
  | clear => exact DInv.clear r

theorem DInv.step {n : Node} {G : Ghost} (r : RInv n G) (h : DInv n G) (op : Op) :
    DInv (op.run n).1 (op.ghost n G) := by
  cases op with
  | commit => exact h.commit
  | reorg target => exact h.reorg target
  | _ =>
    exact ((Op.steps _ rfl n G).ind (I := fun n G => RInv n G ∧ DInv n G)
      (fun p h => ⟨p.rinv h.1, p.dinv h.1 h.2⟩) ⟨r, h⟩).2

theorem DInv.addRawTx {n : Node} {G : Ghost} (r : RInv n G) (h : DInv n G) (ts : Nat) (hash0 : String) (idx : Nat)
    (txid : String) (dec : RawDecode) (evs : List Ev) :
    DInv (n.addRawTx ts hash0 idx txid dec evs).1 (gAddRawTx n G ts hash0 idx txid dec evs) :=
  h.step r (.addRawTx ts hash0 idx txid dec evs)

theorem DInv.initialise {n : Node} {G : Ghost} (r : RInv n G) (h : DInv n G) (hash0 : String) (ts height : Nat)
    (evs : List Ev) : DInv (n.initialise hash0 ts height evs).1 (gInitialise n G hash0 ts height evs) :=
  h.step r (.initialise hash0 ts height evs)

theorem ReachG.dinv {n : Node} {G : Ghost} (h : ReachG n G) : DInv n G := by
  induction h with
  | init => exact DInv.init
  | step op hr _ _ ih => exact ih.step hr.inv op

/-! ## the hypotheses of the crash theorems, on reachable nodes -/

/-- `n0 < durNext`: block `n0` was persisted by a completed commit.  The conjuncts are `hdur`, `habove`, `hrow` of
the engine-level theorems. -/
theorem ReachG.crash_hyps {n : Node} {G : Ghost} (h : ReachG n G) {n0 : Nat} (hn0 : n0 < n.durNext) :
    (∀ i k, ((G.s i).cur k).valAt n0 = ((G.s i).dur k).valAt n0) ∧
    (∀ i, ∀ p ∈ (n.b i).cache, n0 < p.1) ∧
    (∀ i, (n.b i).db.get? n0 ≠ none) := by
  have d := h.dinv.at_
  refine ⟨fun i k => d.dur_same i k n0 hn0, fun i p hp => Nat.lt_of_lt_of_le hn0 (d.cache_above i p hp), fun i => ?_⟩
  have := (h.reach.block_rows.2 i n0).mpr hn0
  rwa [BlockDb.get_clear] at this

/-- At a block boundary, a target inside the engine's own acceptance test (`max_block_number ≤ W + n0`) is inside
the window of every table other than the two pending-pool tables; for those two it is the proviso of finding F10
(`hpool`). -/
theorem ReachG.window_bdry {n : Node} {G : Ghost} (h : ReachG n G) (hw : n.lbi.waiting = 0) {n0 : Nat}
    (hmax : n.maxBlock.getD 0 ≤ W + n0) (hpool : ∀ i, i ∈ poolTables → (G.s i).maxEver ≤ n0 + W) :
    ∀ i, (G.s i).maxEver ≤ n0 + W := by
  intro i
  by_cases hi : i ∈ poolTables
  · exact hpool i hi
  · have : (G.s i).maxEver ≤ n.mb := (h.inv.bdry hw).2.1 i hi
    unfold mb at this
    omega

/-- One block of slack makes the proviso of F10 unnecessary: no table has ever been passed a number above
`max_block_number + 1`. -/
theorem ReachG.pool_of_slack {n : Node} {G : Ghost} (h : ReachG n G) (hw : n.lbi.waiting = 0) {n0 : Nat}
    (hmax : n.maxBlock.getD 0 < W + n0) : ∀ i, i ∈ poolTables → (G.s i).maxEver ≤ n0 + W := by
  intro i _
  have h1 : (G.s i).maxEver ≤ max (n.mb + 1) n.nextHeight := h.inv.core.me_le i
  have h2 : n.nextHeight ≤ n.mb + 1 := h.inv.next_le hw
  unfold mb at h1 h2
  omega

/-- At a block boundary nothing stands more than one block above `max_block_number`. -/
theorem ReachG.depth_bdry {n : Node} {G : Ghost} (h : ReachG n G) (hw : n.lbi.waiting = 0) {n0 : Nat}
    (hmax : n.maxBlock.getD 0 ≤ W + n0) :
    n.nextHeight ≤ n0 + W + 1 ∧ ∀ k, (n.b .numberToHash).get k ≠ none → k ≤ n0 + W := by
  have h1 : n.nextHeight ≤ n.mb + 1 := h.inv.next_le hw
  have h2 : ∀ k, (n.b .numberToHash).get k ≠ none → k ≤ n.mb := (h.inv.bdry hw).1
  unfold mb at h1 h2
  exact ⟨by omega, fun k hk => by have := h2 k hk; omega⟩

/-! ## a crash at any write, on any reachable node, is repaired by a rollback to a durable height -/

/-- **Crash anywhere in the engine commit, every reachable state**: whatever the cut index of each table (so for any
order in which the engine commits its tables, `crashCommitAtIn_eq_crashIdx`).
`hw`: a block boundary (the engine refuses `commit` otherwise); `hn0`: block `n0` was persisted by a completed commit;
`hmax`: the engine's depth test on the written-through `max_block_number` row; `hpool`: the proviso of finding F10
(`ReachG.pool_of_slack`: not needed with one block of slack).
What is claimed, in the terms of the source: `C04.engine_crash_in_commit_recoverable_reachable`. -/
theorem ReachG.crashIdx_reorg_ok {n : Node} {G : Ghost} (h : ReachG n G) (hw : n.lbi.waiting = 0)
    (ib : BId → Nat) (it : TId → Nat) (n0 : Nat) (hn0 : n0 < n.durNext) (hmax : n.maxBlock.getD 0 ≤ W + n0)
    (hpool : ∀ i, i ∈ poolTables → (G.s i).maxEver ≤ n0 + W) :
    ∃ r, (n.crashIdx ib it).reorg n0 = (r, .ok) ∧ RestoredAt n G.s n0 r ∧
      r.latestHeight = n0 ∧ r.nextHeight = n0 + 1 := by
  obtain ⟨hdur, habove, hrow⟩ := h.crash_hyps hn0
  obtain ⟨hb, hkeys⟩ := h.depth_bdry hw hmax
  exact Node.crashIdx_reorg_ok n G.s h.sim ib it n0 (h.window_bdry hw hmax hpool) hb hdur habove
    (hrow .numberToHash) hkeys hmax

/-- **Crash inside the table phase or the block phase of `reorg m`, every reachable state.**  Every versioned table
is cut at its own index `it i` of the commit that ends its own rollback (not started / cut / done); the block columns
`u` have lost some of their rows above `m` (`Brc20ProgDatabase::reorg` deletes them one persistent write at a time
after the twelve table rollbacks: none, some or all are gone); reopen. -/
theorem ReachG.crash_in_reorg_phases_recoverable {n : Node} {G : Ghost} (h : ReachG n G) (hw : n.lbi.waiting = 0)
    (m n0 : Nat) (hnm : n0 ≤ m) (hmW : m ≤ n0 + W) (hn0 : n0 < n.durNext) (hmax : n.maxBlock.getD 0 ≤ W + n0)
    (hpool : ∀ i, i ∈ poolTables → (G.s i).maxEver ≤ n0 + W)
    (it : TId → Nat) (u : BId → AMap Nat String) (hu : ∀ i, PartlyDeleted m (n.b i).db (u i)) :
    ∃ r, (n.crashReorgIdx m it u).reorg n0 = (r, .ok) ∧ RestoredAt n G.s n0 r ∧
      r.latestHeight = n0 ∧ r.nextHeight = n0 + 1 := by
  obtain ⟨hdur, _, hrow⟩ := h.crash_hyps hn0
  exact crashReorgIdx_reorg_ok n G.s h.sim m it u n0 hnm hmW (h.window_bdry hw hmax hpool) hdur hu
    (hrow .numberToHash) (fun k hk => (h.depth_bdry hw hmax).2 k (BlockDb.get_ne_none_of_db hk)) hmax

/-- **Crash inside the commit that ends `reorg m`, every reachable state.**  `n1` is the node after the table phase
of `reorg m`; the process dies at any write of the closing `commit_changes`. -/
theorem ReachG.crash_in_reorg_commit_recoverable {n : Node} {G : Ghost} (h : ReachG n G) (hw : n.lbi.waiting = 0)
    (m n0 : Nat) (hnm : n0 ≤ m) (hmW : m ≤ n0 + W) (hn0 : n0 < n.durNext) (hmax : n.maxBlock.getD 0 ≤ W + n0)
    (hpool : ∀ i, i ∈ poolTables → (G.s i).maxEver ≤ n0 + W)
    (n1 : Node) (e1 : reorgTables n m allTIds = some n1) (ib : BId → Nat) (it : TId → Nat) :
    ∃ r, (({ n1 with b := fun i => (n1.b i).reorg m } : Node).crashIdx ib it).reorg n0 = (r, .ok) ∧
      RestoredAt n G.s n0 r ∧ r.latestHeight = n0 ∧ r.nextHeight = n0 + 1 := by
  obtain ⟨_, habove, hrow⟩ := h.crash_hyps hn0
  obtain ⟨hb, hkeys⟩ := h.depth_bdry hw hmax
  exact crash_in_reorg_commit_ok n G.s h.sim m n0 hnm hmW (h.window_bdry hw hmax hpool) hb habove
    (hrow .numberToHash) hkeys hmax n1 e1 ib it

/-! ## a crash with no write in flight -/

/-- dying before the first write of a commit (or anywhere outside `commit` / `reorg`) is a reopen -/
theorem crashCommitAt_zero (n : Node) : n.crashCommitAt 0 = n.reopen := rfl

theorem crashReorgAt_zero_reads (n : Node) (m : Nat) (i : TId) :
    ((n.crashReorgAt m 0).t i) = (n.reorgLoaded m i).clear := rfl

/-- **A crash outside commit / reorg loses only uncommitted work, every reachable state**
(`C04.engine_crash_outside_commit_reachable` says what is claimed).  `G.d`, the log as of the last commit point, is
also `TSpec.dur` of the current log: the second conjunct. -/
theorem ReachG.crash_outside_commit {n : Node} {G : Ghost} (h : ReachG n G) :
    (∀ i k, ((n.crashCommitAt 0).t i).latest k = (G.d i).read k) ∧
    (∀ i k, (G.d i).read k = ((G.s i).dur k).latest) ∧
    (∀ i k, ((n.crashCommitAt 0).b i).get k = (n.b i).db.get? k) ∧
    (∀ i k, ((n.crashCommitAt 0).b i).get k ≠ none ↔ k < n.durNext) ∧
    (n.crashCommitAt 0).nextHeight = n.durNext ∧ (n.crashCommitAt 0).lbi = {} ∧
    ReachG (n.crashCommitAt 0) G.clear := by
  rw [crashCommitAt_zero]
  obtain ⟨hread, hdur⟩ := h.inv.core.clear_reads
  exact ⟨hread, hdur, fun i k => BlockDb.get_clear (n.b i) k, fun i k => h.reach.block_rows.2 i k, clear_nextHeight n,
    rfl, ReachG.step .reopen h trivial trivial⟩

end Node

/-! ## non-vacuity: a reachable node, cut in the middle of its commit

The run `opsC` of Proofs/Scenario.lean, evaluated there (`st.1 = stNode`): the run of `Node.Example` with a commit
after the genesis block - block 0 persisted, blocks 1 and 2 in the caches.  The durable height is 1, the node stands at
2.  The engine commit issues 21 writes: 9 block rows (3 tables x blocks 1, 2 + flush), then `tx` (2), `pending` (2),
`pendingTxid` (2), `account` (2), `hashToNumber` (4).  Dying at write 12 leaves the block tables and `tx` at block 2,
`pending` cut between its two writes, `account` and `hashToNumber` at block 0. -/

namespace ReachCrashExample
open Node Node.Example

theorem st_facts : st.1.lbi.waiting = 0 ∧ st.1.durNext = 1 ∧ st.1.nextHeight = 3 ∧ st.1.maxBlock = some 2 ∧
    st.1.globalWrites.length = 21 := by
  rw [st_node]
  decide

/-- the torn state on disk after 12 writes: block 1's `tx` row is there, the `account` row is still the genesis one,
the hash table says height 2 -/
example : ((st.1.crashCommitAt 12).t .tx).latest "t1" = some "x" ∧
    ((st.1.crashCommitAt 12).t .account).latest "aa" = some acct0 ∧
    (st.1.t .account).latest "aa" = some acct1 ∧
    st.1.itOf 12 .tx = 3 ∧ st.1.itOf 12 .pending = 1 ∧ (st.1.tWrites .pending).length = 2 ∧
    st.1.itOf 12 .account = 0 ∧ (st.1.crashCommitAt 12).latestHeight = 2 := by
  rw [st_node]
  decide +kernel

/-- **`ReachG.crashIdx_reorg_ok` applies**, for every crash point `j`: `reorg 0` on the reopened node answers `ok` and
restores block 0. -/
theorem recovers (j : Nat) :
    ∃ r, (st.1.crashCommitAt j).reorg 0 = (r, .ok) ∧ RestoredAt st.1 st.2.s 0 r ∧
      r.latestHeight = 0 ∧ r.nextHeight = 1 := by
  obtain ⟨hw, hdur, _, hmax, _⟩ := st_facts
  rw [crashCommitAt_eq_crashIdx]
  exact st_reach.crashIdx_reorg_ok hw _ _ 0 (by rw [hdur]; decide) (by rw [hmax]; decide)
    (st_reach.pool_of_slack hw (by rw [hmax]; decide))

/-- and inside `reorg 1` (table phase, any write), then `reorg 0` -/
theorem recovers_in_reorg (j : Nat) :
    ∃ r, (st.1.crashReorgAt 1 j).reorg 0 = (r, .ok) ∧ RestoredAt st.1 st.2.s 0 r ∧
      r.latestHeight = 0 ∧ r.nextHeight = 1 := by
  obtain ⟨hw, hdur, _, hmax, _⟩ := st_facts
  rw [crashReorgAt_eq_crashReorgIdx]
  exact st_reach.crash_in_reorg_phases_recoverable hw 1 0 (by decide) (by decide) (by rw [hdur]; decide)
    (by rw [hmax]; decide) (st_reach.pool_of_slack hw (by rw [hmax]; decide)) _ _ (fun _ => partlyDeleted_refl 1 _)

/-- what "restored" means here, and the same by direct evaluation of the model -/
example : (st.2.s .account).readAt "aa" 0 = some acct0 ∧ (st.2.s .tx).readAt "t1" 0 = none ∧
    ((st.1.crashCommitAt 12).reorg 0).2 = .ok ∧
    (((st.1.crashCommitAt 12).reorg 0).1.t .tx).latest "t1" = none ∧
    (((st.1.crashCommitAt 12).reorg 0).1.t .account).latest "aa" = some acct0 ∧
    (((st.1.crashCommitAt 12).reorg 0).1.t .pendingTxid).latest "77" = none ∧
    (((st.1.crashCommitAt 12).reorg 0).1.b .numberToHash).get 1 = none ∧
    (((st.1.crashCommitAt 12).reorg 0).1.b .numberToHash).get 0 = some h0 := by
  refine ⟨st_logs_at_0.1, st_logs_at_0.2, ?_⟩
  rw [st_node]
  decide +kernel

/-- **The target must be durable** (`n0 < durNext` cannot be dropped), and the crashed directory does not tell which
heights are: the block tables are committed first, so after the crash at write 12 the reopened node reports height 2
and `durNext = 3`, while `account` is still at block 0.  `reorg 1` (block 1 was never covered by a completed commit)
is accepted and answers `ok`, but `account` reads its genesis value, not its value at block 1; after a crash before
the first write the same `reorg 1` is refused (`above`). -/
example : ((st.1.crashCommitAt 0).reorg 1).2 = .err "above" ∧ ((st.1.crashCommitAt 12).reorg 1).2 = .ok ∧
    (((st.1.crashCommitAt 12).reorg 1).1.t .account).latest "aa" = some acct0 ∧
    (st.2.s .account).readAt "aa" 1 = some acct1 ∧ (st.1.crashCommitAt 12).durNext = 3 := by
  rw [st_log_at_1, st_node]
  decide +kernel

/-- a crash with no write in flight: the reopened node is back at the last commit point (block 0) -/
example : st.1.crashCommitAt 0 = st.1.reopen ∧ ((st.1.crashCommitAt 0).t .account).latest "aa" = some acct0 ∧
    (st.1.crashCommitAt 0).nextHeight = 1 := by
  rw [st_node]
  exact ⟨rfl, by decide, by decide⟩

end ReachCrashExample
end Brc20
