/-
The two heights of a node and its `reorg`, each unfolded once. Both heights are read off the hash table when the
in-memory height, if there is one, is its newest row (`HeightInv`): so after `clear_caches`, `commit_changes` and an
accepted `reorg`. On tables that refine their plain per-key logs (`NodeSim`) an accepted `reorg` restores every read to
the end of the target block (`reorg_restores_of_sim`).
-/
import Brc20.Model.Node
import Brc20.Proofs.Table
import Brc20.Proofs.BlockDb

namespace Brc20
open Node

/-- every table refines its plain log: the form in which the theorems of Props/C01 and C03 take their hypothesis -/
structure NodeSim (n : Node) (g : TId → TSpec String String) : Prop where
  sim : ∀ i, Table.Sim Node.W (n.t i) (g i)

/-- the in-memory latest height, when present, is the newest row of the hash table, and no two rows of one
block table live under one number -/
structure HeightInv (n : Node) : Prop where
  latest_is_last : ∀ h x, n.latest = some (h, x) → (n.b .numberToHash).lastKey = some h
  nodup : ∀ i, AMap.Nodup (n.b i).db ∧ AMap.Nodup (n.b i).cache

namespace Node

open BlockDb (nextOf)

/-- the height the next block would get after a `clear` / reopen -/
def durNext (n : Node) : Nat := nextOf (n.b .numberToHash).clear.lastKey

/-- the height after a `clear` / reopen -/
def durLatest (n : Node) : Nat := ((n.b .numberToHash).clear.lastKey).getD 0

theorem nextHeight_eq (n : Node) :
    n.nextHeight = match n.latest with
      | some (h, _) => h + 1
      | none => nextOf (n.b .numberToHash).lastKey := by
  unfold nextHeight
  cases n.latest with
  | none => simp only []; cases (n.b .numberToHash).lastKey <;> rfl
  | some p => rfl

theorem latestHeight_eq (n : Node) :
    n.latestHeight = match n.latest with
      | some (h, _) => h
      | none => ((n.b .numberToHash).lastKey).getD 0 := rfl

/-- on an empty database both heights are 0 -/
theorem latestHeight_eq_pred (n : Node) : n.latestHeight = n.nextHeight - 1 := by
  rw [nextHeight_eq, latestHeight_eq]
  cases n.latest with
  | some p => rfl
  | none => cases (n.b .numberToHash).lastKey <;> rfl

theorem nextHeight_of_last {n : Node} (h : ∀ a x, n.latest = some (a, x) → (n.b .numberToHash).lastKey = some a) :
    n.nextHeight = nextOf (n.b .numberToHash).lastKey := by
  rw [nextHeight_eq]
  cases hx : n.latest with
  | none => rfl
  | some p => rw [h p.1 p.2 hx]; rfl

theorem latestHeight_of_last {n : Node} (h : ∀ a x, n.latest = some (a, x) → (n.b .numberToHash).lastKey = some a) :
    n.latestHeight = ((n.b .numberToHash).lastKey).getD 0 := by
  rw [latestHeight_eq]
  cases hx : n.latest with
  | none => rfl
  | some p => rw [h p.1 p.2 hx]; rfl

theorem nextHeight_of_latest_none {n : Node} (hl : n.latest = none) :
    n.nextHeight = nextOf (n.b .numberToHash).lastKey := by rw [nextHeight_eq, hl]

theorem latestHeight_of_latest_none {n : Node} (hl : n.latest = none) :
    n.latestHeight = ((n.b .numberToHash).lastKey).getD 0 := by rw [latestHeight_eq, hl]

theorem nextHeight_le_nextOf {n : Node}
    (hl : ∀ h x, n.latest = some (h, x) → (n.b .numberToHash).get h ≠ none) :
    n.nextHeight ≤ nextOf (n.b .numberToHash).lastKey := by
  rw [nextHeight_eq]
  cases hlat : n.latest with
  | none => exact Nat.le_refl _
  | some p =>
    obtain ⟨h, x⟩ := p
    have := BlockDb.lt_nextOf_of_get (hl h x hlat)
    simp only []; omega

theorem latestHeight_le_lastKey {n : Node}
    (hl : ∀ h x, n.latest = some (h, x) → (n.b .numberToHash).get h ≠ none) :
    n.latestHeight ≤ ((n.b .numberToHash).lastKey).getD 0 := by
  rw [latestHeight_eq]
  cases hlat : n.latest with
  | none => exact Nat.le_refl _
  | some p =>
    obtain ⟨h, x⟩ := p
    obtain ⟨e, he, hle⟩ := BlockDb.get_ne_none_le_lastKey (hl h x hlat)
    rw [he]; exact hle

theorem nextHeight_mono {n n' : Node} (hl : n'.latest = n.latest)
    (hsub : ∀ k, (n'.b .numberToHash).get k ≠ none → (n.b .numberToHash).get k ≠ none) :
    n'.nextHeight ≤ n.nextHeight := by
  rw [nextHeight_eq, nextHeight_eq, hl]
  cases n.latest with
  | some p => exact Nat.le_refl _
  | none => exact BlockDb.nextOf_lastKey_mono hsub

theorem nextHeight_congr {n n' : Node} (hb : n'.b = n.b) (hl : n'.latest = n.latest) : n'.nextHeight = n.nextHeight := by
  rw [nextHeight_eq, nextHeight_eq, hl, hb]

theorem durNext_of_commitPoint {n : Node} (hl : n.latest = none)
    (hc : (n.b .numberToHash).clear = n.b .numberToHash) : n.durNext = n.nextHeight := by
  rw [nextHeight_of_latest_none hl, durNext, hc]

theorem durLatest_of_commitPoint {n : Node} (hl : n.latest = none)
    (hc : (n.b .numberToHash).clear = n.b .numberToHash) : n.durLatest = n.latestHeight := by
  rw [latestHeight_of_latest_none hl, durLatest, hc]

theorem clear_nextHeight (n : Node) : (n.clear).1.nextHeight = n.durNext := nextHeight_of_latest_none rfl

theorem clear_latestHeight (n : Node) : (n.clear).1.latestHeight = n.durLatest := latestHeight_of_latest_none rfl

theorem commitAll_nextHeight (n : Node) : n.commitAll.nextHeight = nextOf (n.b .numberToHash).lastKey :=
  (nextHeight_of_latest_none rfl).trans (congrArg nextOf (BlockDb.lastKey_commit_clear _))

theorem commitAll_latestHeight (n : Node) : n.commitAll.latestHeight = ((n.b .numberToHash).lastKey).getD 0 :=
  (latestHeight_of_latest_none rfl).trans (congrArg (·.getD 0) (BlockDb.lastKey_commit_clear _))

theorem reorgTables_eq_some {target : Nat} {l : List TId} (nd : l.Nodup) {n n1 : Node} :
    reorgTables n target l = some n1 ↔
      (∀ i ∈ l, (n.t i).reorg W target = some (n1.t i)) ∧ (∀ i, i ∉ l → n1.t i = n.t i) ∧
      n1.b = n.b ∧ n1.latest = n.latest ∧ n1.lbi = n.lbi ∧ n1.maxBlock = n.maxBlock := by
  induction l generalizing n with
  | nil =>
    simp only [reorgTables, Option.some.injEq, List.not_mem_nil, false_imp_iff, implies_true, not_false_eq_true,
      true_and, forall_const]
    constructor
    · rintro rfl; exact ⟨fun _ => rfl, rfl, rfl, rfl, rfl⟩
    · rintro ⟨h1, h2, h3, h4, h5⟩
      obtain ⟨t, b, mb, lat, lbi⟩ := n
      obtain ⟨t1, b1, mb1, lat1, lbi1⟩ := n1
      simp only at h1 h2 h3 h4 h5
      rw [funext h1, h2, h3, h4, h5]
  | cons i rest ih =>
    rw [List.nodup_cons] at nd
    simp only [reorgTables]
    have hset : ∀ t' j, j ≠ i → (n.setT i t').t j = n.t j := fun t' j hj => by simp [setT, hj]
    cases hr : (n.t i).reorg W target with
    | none =>
      simp only [reduceCtorEq, false_iff]
      intro h; have := h.1 i List.mem_cons_self; rw [hr] at this; cases this
    | some t' =>
      simp only []
      rw [ih nd.2]
      constructor
      · rintro ⟨h1, h2, h3⟩
        have hi : n1.t i = t' := by rw [h2 i nd.1]; simp [setT]
        refine ⟨fun j hj => ?_, fun j hj => ?_, h3⟩
        · rcases List.mem_cons.mp hj with rfl | hj'
          · rw [hr, hi]
          · rw [← h1 j hj', hset t' j (fun e => nd.1 (e ▸ hj'))]
        · rw [h2 j (fun e => hj (List.mem_cons_of_mem _ e)), hset t' j (fun e => hj (e ▸ List.mem_cons_self))]
      · rintro ⟨h1, h2, h3⟩
        have hi : n1.t i = t' := Option.some.inj ((h1 i List.mem_cons_self).symm.trans hr)
        refine ⟨fun j hj => ?_, fun j hj => ?_, h3⟩
        · rw [hset t' j (fun e => nd.1 (e ▸ hj))]; exact h1 j (List.mem_cons_of_mem _ hj)
        · by_cases hji : j = i
          · subst hji; rw [hi]; simp [setT]
          · rw [hset t' j hji]; exact h2 j (fun e => (List.mem_cons.mp e).elim hji hj)

theorem mem_allTIds (i : TId) : i ∈ allTIds := by cases i <;> decide

theorem nodup_allTIds : allTIds.Nodup := by decide

theorem reorgTables_all_eq_some {target : Nat} {n n1 : Node} :
    reorgTables n target allTIds = some n1 ↔
      (∀ i, (n.t i).reorg W target = some (n1.t i)) ∧
      n1.b = n.b ∧ n1.latest = n.latest ∧ n1.lbi = n.lbi ∧ n1.maxBlock = n.maxBlock := by
  rw [reorgTables_eq_some nodup_allTIds]
  exact ⟨fun h => ⟨fun i => h.1 i (mem_allTIds i), h.2.2⟩,
    fun h => ⟨fun i _ => h.1 i, fun i hi => absurd (mem_allTIds i) hi, h.2⟩⟩

/-- the four refusals of `Node.reorg`, in its order (`BRC20ProgEngine::reorg`: block under construction, target above
the height, more than `W` below it; `Brc20ProgDatabase::reorg`: more than `W` below the highest block ever finalised) -/
def Refused (n : Node) (target : Nat) : Prop :=
  n.lbi.waiting ≠ 0 ∨ target > n.latestHeight ∨ n.latestHeight - target > W ∨ n.maxBlock.getD 0 > W + target

/-- a `reorg` that is not refused: the table phase (a panic if one table's rollback fails), the block tables cut at
the target, `commit_changes` -/
def reorgBody (n : Node) (target : Nat) : Node × Class :=
  match reorgTables n target allTIds with
  | none => (n, .panic)
  | some n1 => (({ n1 with b := fun i => (n1.b i).reorg target } : Node).commitAll, .ok)

/-- what a `reorg` that is not refused has checked -/
theorem not_refused_iff {n : Node} {target : Nat} : ¬ Refused n target ↔
    n.lbi.waiting = 0 ∧ target ≤ n.latestHeight ∧ n.latestHeight ≤ target + W ∧ n.maxBlock.getD 0 ≤ W + target := by
  simp only [Refused, not_or, Decidable.not_not, gt_iff_lt, Nat.not_lt, Nat.sub_le_iff_le_add']

theorem reorg_of_not_refused (n : Node) (target : Nat) (h : ¬ Refused n target) :
    n.reorg target = reorgBody n target := by
  simp only [Refused, not_or] at h
  obtain ⟨h1, h2, h3, h4⟩ := h
  unfold Node.reorg reorgBody
  simp only [h1, h2, h3, h4, if_false]
  cases reorgTables n target allTIds <;> rfl

theorem reorg_of_refused {n : Node} {target : Nat} (h : Refused n target) : ∃ e, n.reorg target = (n, .err e) := by
  unfold Node.reorg
  split
  · exact ⟨_, rfl⟩
  simp only []
  split
  · exact ⟨_, rfl⟩
  split
  · exact ⟨_, rfl⟩
  split
  · exact ⟨_, rfl⟩
  rename_i h1 h2 h3 h4
  exact absurd h (by simp only [Refused, not_or]; exact ⟨h1, h2, h3, h4⟩)

theorem reorgBody_not_err (n : Node) (target : Nat) (e : String) : (reorgBody n target).2 ≠ .err e := by
  unfold reorgBody
  cases reorgTables n target allTIds <;> simp

theorem reorg_ok (n : Node) (target : Nat) (hok : (n.reorg target).2 = .ok) :
    ¬ Refused n target ∧ ∃ n1, reorgTables n target allTIds = some n1 ∧
      n.reorg target = (({ n1 with b := fun i => (n1.b i).reorg target } : Node).commitAll, .ok) := by
  have hnr : ¬ Refused n target := by
    intro hr
    obtain ⟨e, he⟩ := reorg_of_refused hr
    rw [he] at hok; cases hok
  refine ⟨hnr, ?_⟩
  rw [reorg_of_not_refused n target hnr] at hok ⊢
  unfold reorgBody at hok ⊢
  cases hr : reorgTables n target allTIds with
  | none => rw [hr] at hok; cases hok
  | some n1 => exact ⟨n1, rfl, rfl⟩

theorem reorg_fst_of_ne_ok {n : Node} {target : Nat} (h : (n.reorg target).2 ≠ .ok) : (n.reorg target).1 = n := by
  by_cases hr : Refused n target
  · obtain ⟨e, he⟩ := reorg_of_refused hr
    rw [he]
  · rw [reorg_of_not_refused n target hr] at h ⊢
    unfold reorgBody at h ⊢
    cases hx : reorgTables n target allTIds with
    | none => rfl
    | some n1 => rw [hx] at h; exact absurd rfl h

/-- The height `Brc20ProgDatabase::reorg` hands to its closing `commit_changes`. Two cases, because `commit_changes`
asks `get_next_block_height` (src/db/brc20_prog_database.rs:845), which reads the in-memory `latest_block_number`
(181-193), and the rollback has not touched that: with an in-memory height `h` the tables are committed at `h + 1`,
not at `target + 1`. All the proofs use of it is `CoreAt.reorgNb_bounds` (Proofs/NodeRun.lean). -/
def reorgNb (n : Node) (target : Nat) : Nat :=
  match n.latest with
  | some (h, _) => h + 1
  | none => nextOf ((n.b .numberToHash).reorg target).lastKey

theorem reorg_ok_eq {n : Node} {target : Nat} (hok : (n.reorg target).2 = .ok) :
    ∃ f : TId → Table String String, (∀ i, (n.t i).reorg W target = some (f i)) ∧
      (n.reorg target).1 = { n with t := fun i => (f i).commit W (reorgNb n target),
                                     b := fun i => ((n.b i).reorg target).commit.clear, latest := none } := by
  obtain ⟨_, n1, e1, e2⟩ := reorg_ok n target hok
  obtain ⟨ht, eb, el, elbi, emx⟩ := reorgTables_all_eq_some.mp e1
  have hnb : ({ n1 with b := fun i => (n1.b i).reorg target } : Node).nextHeight = reorgNb n target := by
    rw [nextHeight_eq, reorgNb, ← el, ← eb]
  refine ⟨n1.t, ht, ?_⟩
  rw [e2]
  show ({ t := fun i => (n1.t i).commit W _, b := fun i => ((n1.b i).reorg target).commit.clear,
          maxBlock := n1.maxBlock, latest := none, lbi := n1.lbi } : Node) = _
  rw [hnb, eb, emx, elbi]

theorem reorg_get {n : Node} {target : Nat} (hok : (n.reorg target).2 = .ok) (i : BId) (k : Nat) :
    ((n.reorg target).1.b i).get k = if k ≤ target then (n.b i).get k else none := by
  obtain ⟨f, _, e⟩ := reorg_ok_eq hok
  rw [e]
  show (((n.b i).reorg target).commit.clear).get k = _
  rw [BlockDb.get_commit_clear, BlockDb.get_reorg]

theorem reorg_ok_nextHeight {n : Node} {target : Nat} (hok : (n.reorg target).2 = .ok) :
    (n.reorg target).1.nextHeight = nextOf ((n.b .numberToHash).reorg target).lastKey := by
  obtain ⟨f, _, e⟩ := reorg_ok_eq hok
  rw [e]
  exact (nextHeight_of_latest_none rfl).trans (congrArg nextOf (BlockDb.lastKey_commit_clear _))

theorem reorg_ok_latestHeight {n : Node} {target : Nat} (hok : (n.reorg target).2 = .ok) :
    (n.reorg target).1.latestHeight = (((n.b .numberToHash).reorg target).lastKey).getD 0 := by
  obtain ⟨f, _, e⟩ := reorg_ok_eq hok
  rw [e]
  exact (latestHeight_of_latest_none rfl).trans (congrArg (·.getD 0) (BlockDb.lastKey_commit_clear _))

theorem reorgTables_post (n : Node) (target : Nat) (P : TId → Table String String → Prop)
    (hstep : ∀ i, ∃ t', (n.t i).reorg W target = some t' ∧ P i t') :
    ∃ n1, reorgTables n target allTIds = some n1 ∧ (∀ i, (n.t i).reorg W target = some (n1.t i)) ∧
      (∀ i, P i (n1.t i)) ∧ n1.b = n.b ∧ n1.latest = n.latest ∧ n1.lbi = n.lbi ∧ n1.maxBlock = n.maxBlock := by
  have hsome : ∀ i, ((n.t i).reorg W target).isSome := fun i => by obtain ⟨t', e, _⟩ := hstep i; rw [e]; rfl
  have ht : ∀ i, (n.t i).reorg W target = some (((n.t i).reorg W target).get (hsome i)) := fun i => by simp
  refine ⟨{ n with t := fun i => ((n.t i).reorg W target).get (hsome i) },
    reorgTables_all_eq_some.mpr ⟨ht, rfl, rfl, rfl, rfl⟩, ht, fun i => ?_, rfl, rfl, rfl, rfl⟩
  obtain ⟨t', e, p⟩ := hstep i
  simpa only [e, Option.get_some] using p

theorem reorgBody_post (n : Node) (target : Nat) (P : TId → Table String String → Prop)
    (hstep : ∀ i, ∃ t', (n.t i).reorg W target = some t' ∧ P i t') :
    ∃ r, reorgBody n target = (r, .ok) ∧ (∀ i, P i (r.t i)) ∧
      (∀ i k, (r.b i).get k = if k ≤ target then (n.b i).get k else none) ∧
      r.latest = none ∧ r.lbi = n.lbi ∧ r.maxBlock = n.maxBlock := by
  obtain ⟨n1, e1, e2, e3, e4, _, e6, e7⟩ := reorgTables_post n target P hstep
  refine ⟨({ n1 with b := fun i => (n1.b i).reorg target } : Node).commitAll, by unfold reorgBody; rw [e1],
    fun i => ?_, fun i k => ?_, rfl, e6, e7⟩
  · -- a rolled-back table has nothing cached, so the closing commit leaves it as it is
    show P i ((n1.t i).commit W _)
    obtain ⟨tl, _, el⟩ := Table.reorg_eq_some_iff.mp (e2 i)
    rw [Table.commit_of_cache_nil (by rw [← el]; rfl)]
    exact e3 i
  · show (((n1.b i).reorg target).commit.clear).get k = _
    rw [BlockDb.get_commit_clear, e4, BlockDb.get_reorg]

theorem reorg_restores_of_sim {n : Node} {g : TId → TSpec String String} (hs : ∀ i, Table.Sim W (n.t i) (g i))
    {target : Nat} (hnr : ¬ Refused n target) (hwin : ∀ i, (g i).maxEver ≤ target + W) :
    (n.reorg target).2 = .ok ∧ ∀ i k, ((n.reorg target).1.t i).latest k = (g i).readAt k target := by
  obtain ⟨r, e, ht, _⟩ := reorgBody_post n target (fun i t' => ∀ k, t'.latest k = (g i).readAt k target)
    (fun i => Table.sim_reorg_latest (hs i) target (hwin i))
  rw [reorg_of_not_refused n target hnr, e]
  exact ⟨rfl, ht⟩

end Node
end Brc20
