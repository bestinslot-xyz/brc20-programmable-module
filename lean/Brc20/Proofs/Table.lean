/-
Refinement of the versioned table model to the plain per-key log specification (`TSpec`): the invariant `Inv`, the
simulation relation `Sim` (inside the window, `eff` and `disk` of every key say what the full logs say), one lemma per
operation, and from them `step_sim` / `run_sim`.  Point reads, exact rollback and what a discard returns to are read
off `Sim`.  At the end: the predicate of the version bound (`VersionsLe`; the bound is `C13.versions_bounded`) and a
table as its own log (`selfSpec`), for a table whose log is not known.
-/
import Brc20.Model.TableSpec
import Brc20.Proofs.AMap
import Brc20.Proofs.HistOps
import Brc20.Proofs.TableOps
set_option linter.unusedSectionVars false

namespace Brc20.Table
variable {K V : Type} [DecidableEq K] [DecidableEq V]
open Hist

/-- Representation invariant of a table all of whose stamps are ≤ `top`.  Its last clause, "the value row is the newest
persisted version", fails between the two persistent writes of a key: the crash proofs therefore speak of `disk`, not
of `Inv`. -/
structure Inv (t : Table K V) (top : Nat) : Prop where
  cache_nodup : AMap.Nodup t.cache
  cache_ok : ∀ k h, t.cache.get? k = some h → Ok h top
  cdb_ok : ∀ k h, t.cdb.get? k = some h → Ok h top ∧ h.latest = t.db.get? k

/-- A history that starts at block 0 (every log does): something is in force at every block. -/
def Rooted (h : Hist V) : Prop := ∃ v rest, h = (0, v) :: rest

/-- Simulation relation between a table and the plain specification, for window size `W`. -/
structure Sim (W : Nat) (t : Table K V) (s : TSpec K V) : Prop where
  inv : Inv t s.top
  cur_ok : ∀ k, Ok (s.cur k) s.top ∧ Rooted (s.cur k)
  dur_ok : ∀ k, Ok (s.dur k) s.top ∧ Rooted (s.dur k)
  top_le : s.top ≤ s.maxEver
  cur_eq : ∀ k m, s.maxEver ≤ m + W → (eff t k).valAt m = (s.cur k).valAt m
  dur_eq : ∀ k m, s.maxEver ≤ m + W → (disk t k).valAt m = (s.dur k).valAt m

theorem disk_ok {t : Table K V} {top : Nat} (i : Inv t top) (k : K) :
    Ok (disk t k) top ∧ (disk t k).latest = t.db.get? k := by
  unfold disk
  cases hd : t.cdb.get? k with
  | some h => simpa using i.cdb_ok k h hd
  | none => exact ⟨ok_new _ _, latest_new _⟩

theorem eff_ok {t : Table K V} {top : Nat} (i : Inv t top) (k : K) : Ok (eff t k) top := by
  cases hc : t.cache.get? k with
  | some h => rw [eff_cached hc]; exact i.cache_ok k h hc
  | none => rw [eff_uncached hc]; exact (disk_ok i k).1

theorem latest_eff {t : Table K V} {top : Nat} (i : Inv t top) (k : K) :
    t.latest k = (eff t k).latest := by
  cases hc : t.cache.get? k with
  | some h => rw [eff_cached hc]; simp [Table.latest, hc]
  | none => rw [eff_uncached hc, (disk_ok i k).2]; simp [Table.latest, hc]

theorem inv_iff {t : Table K V} {top : Nat} :
    Inv t top ↔ AMap.Nodup t.cache ∧ (∀ k, Ok (eff t k) top) ∧
      ∀ k, Ok (disk t k) top ∧ (disk t k).latest = t.db.get? k :=
  ⟨fun i => ⟨i.cache_nodup, eff_ok i, disk_ok i⟩,
   fun ⟨a, b, c⟩ => ⟨a, fun k _ hg => eff_cached hg ▸ b k, fun k _ hd => disk_of_cdb hd ▸ c k⟩⟩

theorem inv_of_cache_nil {t : Table K V} {top : Nat} (hc : t.cache = [])
    (hd : ∀ k, Ok (disk t k) top ∧ (disk t k).latest = t.db.get? k) : Inv t top :=
  inv_iff.mpr ⟨hc ▸ List.nodup_nil, fun k => eff_of_cache_nil hc k ▸ (hd k).1, hd⟩

theorem Rooted.valAt_ne {h : Hist V} (r : Rooted h) (n : Nat) : valAt h n ≠ none := by
  obtain ⟨v, rest, rfl⟩ := r
  rw [valAt_cons_le (by simp)]; simp

theorem Rooted.put {h : Hist V} (r : Rooted h) (b : Nat) (x : Option V) : Rooted (Hist.put h b x) := by
  obtain ⟨v, rest, rfl⟩ := r
  cases rest with
  | nil =>
    simp only [Hist.put]
    split
    · rename_i hb; subst hb; exact ⟨x, [], rfl⟩
    · exact ⟨v, _, rfl⟩
  | cons e r => exact ⟨v, Hist.put (e :: r) b x, by simp [Hist.put]⟩

theorem Rooted.filter {h : Hist V} (r : Rooted h) (n : Nat) :
    Rooted (h.filter (fun e => decide (e.1 ≤ n))) := by
  obtain ⟨v, rest, rfl⟩ := r
  exact ⟨v, rest.filter (fun e => decide (e.1 ≤ n)), by simp⟩

theorem Rooted.logWrite {h : Hist V} (r : Rooted h) (b : Nat) (x : Option V) :
    Rooted (TSpec.logWrite h b x) := by
  unfold TSpec.logWrite; split
  · exact r
  · exact r.put b x

theorem ok_logWrite {h : Hist V} {top b : Nat} (o : Ok h top) (hb : top ≤ b) (x : Option V) :
    Ok (TSpec.logWrite h b x) b := by
  unfold TSpec.logWrite; split
  · exact o.mono hb
  · exact o.put hb x

theorem valAt_logWrite {h : Hist V} {top b : Nat} (o : Ok h top) (hb : top ≤ b) (x : Option V) (m : Nat) :
    valAt (TSpec.logWrite h b x) m = if b ≤ m then some x else valAt h m := by
  unfold TSpec.logWrite; split
  · rename_i hl; exact o.valAt_of_latest hb hl m
  · exact valAt_put o.sorted (keysLe_mono o.le hb) m

theorem sim_write {W : Nat} {t : Table K V} {s : TSpec K V} (h : Sim W t s) (b : Nat) (k : K) (x : Option V)
    (hb : s.top ≤ b) :
    Sim W (t.setHist k (write W (eff t k) b x))
      { s with cur := TSpec.upd s.cur k (TSpec.logWrite (s.cur k) b x), top := b, maxEver := max s.maxEver b } := by
  obtain ⟨ok', hval⟩ := write_spec W (eff_ok h.inv k) hb x
  refine ⟨inv_iff.mpr ⟨AMap.nodup_insert h.inv.cache_nodup k _, fun k1 => ?_, fun k1 => ?_⟩,
    fun k1 => ?_, fun k1 => ⟨(h.dur_ok k1).1.mono hb, (h.dur_ok k1).2⟩, Nat.le_max_right _ _,
    fun k1 m hm => ?_, fun k1 m hm => h.dur_eq k1 m (Nat.le_trans (Nat.le_max_left _ _) hm)⟩
  · rw [eff_setHist]; split
    · exact ok'
    · exact (eff_ok h.inv k1).mono hb
  · exact ⟨(disk_ok h.inv k1).1.mono hb, (disk_ok h.inv k1).2⟩
  · simp only [TSpec.upd]; split
    · rename_i hk; subst hk
      exact ⟨ok_logWrite (h.cur_ok k1).1 hb x, (h.cur_ok k1).2.logWrite b x⟩
    · exact ⟨(h.cur_ok k1).1.mono hb, (h.cur_ok k1).2⟩
  · have hm' : max s.maxEver b ≤ m + W := hm
    simp only [TSpec.upd, eff_setHist]; split
    · rename_i hk; subst hk
      rw [hval m (by omega), valAt_logWrite (h.cur_ok k1).1 hb, h.cur_eq k1 m (by omega)]
    · exact h.cur_eq k1 m (by omega)

theorem disk_commit_cases (W b : Nat) {t : Table K V} (nd : AMap.Nodup t.cache) (k : K) :
    disk (t.commit W b) k = eff t k ∨ disk (t.commit W b) k = settle W b (eff t k) := by
  rw [disk_commit W b nd]
  cases hg : t.cache.get? k with
  | none => exact Or.inl (eff_uncached hg).symm
  | some h => exact Or.inr (by rw [eff_cached hg])

theorem valAt_disk_commit (W b : Nat) {t : Table K V} {top : Nat} (i : Inv t top) (k : K) {m : Nat}
    (hm : b ≤ m + W + 1) : valAt (disk (t.commit W b) k) m = valAt (eff t k) m := by
  rcases disk_commit_cases W b i.cache_nodup k with e | e <;> rw [e]
  exact valAt_settle (eff_ok i k) hm

theorem inv_commit (W b : Nat) {t : Table K V} {top : Nat} (i : Inv t top) : Inv (t.commit W b) top := by
  refine inv_of_cache_nil rfl fun k => ?_
  rw [db_commit W b i.cache_nodup, latest_eff i]
  rcases disk_commit_cases W b i.cache_nodup k with e | e <;> rw [e]
  · exact ⟨eff_ok i k, rfl⟩
  · exact ⟨(eff_ok i k).settle W b, latest_settle ..⟩

/-- `b - 1`, not `b`: `isOld` is the strict test `last + W < b`, so `commit b` keeps on disk everything in force from
block `b - 1 - W` on (`valAt_settle`). -/
theorem sim_commit {W : Nat} {t : Table K V} {s : TSpec K V} (h : Sim W t s) (b : Nat) :
    Sim W (t.commit W b) { s with dur := s.cur, maxEver := max s.maxEver (b - 1) } := by
  have key : ∀ k m, max s.maxEver (b - 1) ≤ m + W → valAt (disk (t.commit W b) k) m = valAt (s.cur k) m :=
    fun k m hm => by rw [valAt_disk_commit W b h.inv k (by omega), h.cur_eq k m (by omega)]
  refine ⟨inv_commit W b h.inv, h.cur_ok, h.cur_ok, ?_, fun k m hm => ?_, key⟩
  · show s.top ≤ max s.maxEver (b - 1)
    have := h.top_le; omega
  · rw [eff_of_cache_nil rfl]; exact key k m hm

theorem latest_commit (W b : Nat) {t : Table K V} (nd : AMap.Nodup t.cache) (k : K) :
    (t.commit W b).latest k = t.latest k := by
  rw [latest_of_cache_nil rfl, db_commit W b nd]

theorem sim_clear {W : Nat} {t : Table K V} {s : TSpec K V} (h : Sim W t s) :
    Sim W t.clear { s with cur := s.dur } := by
  refine ⟨inv_of_cache_nil rfl (disk_ok (t := t) h.inv), h.dur_ok, h.dur_ok, h.top_le, fun k m hm => ?_, h.dur_eq⟩
  rw [eff_of_cache_nil rfl]; exact h.dur_eq k m hm

theorem reorg_latest {W n : Nat} {t t' : Table K V} (nd : AMap.Nodup t.cache) (hs : ∀ k, Sorted (eff t k))
    (h : t.reorg W n = some t') (k : K) : valAt (eff t k) n = some (t'.latest k) := by
  obtain ⟨hc, hk⟩ := reorg_spec_some nd h
  obtain ⟨hne, _, hdb⟩ := hk k
  rw [latest_of_cache_nil hc, hdb, valAt_eq_latest_cut (hs k) hne]

theorem reorg_of_valAt {W n : Nat} {t : Table K V} (nd : AMap.Nodup t.cache) {x : K → Option V}
    (hu : ∀ k, Sorted (eff t k) ∧ valAt (eff t k) n = some (x k)) :
    ∃ t', t.reorg W n = some t' ∧ ∀ k, t'.latest k = x k := by
  have hne : ∀ k, cut n (eff t k) ≠ [] := fun k e => by
    have := (valAt_eq_none (hu k).1 n).mpr e
    rw [(hu k).2] at this
    cases this
  obtain ⟨t', e⟩ := reorg_isSome (W := W) nd hne
  refine ⟨t', e, fun k => ?_⟩
  have := reorg_latest nd (fun k => (hu k).1) e k
  rw [(hu k).2] at this
  exact (Option.some.inj this).symm

theorem valAt_cur_readAt {W : Nat} {t : Table K V} {s : TSpec K V} (h : Sim W t s) (k : K) (n : Nat) :
    valAt (s.cur k) n = some (s.readAt k n) := by
  unfold TSpec.readAt
  cases hv : valAt (s.cur k) n with
  | none => exact absurd hv ((h.cur_ok k).2.valAt_ne n)
  | some x => rfl

theorem sim_reorg_latest {W : Nat} {t : Table K V} {s : TSpec K V} (h : Sim W t s) (n : Nat)
    (hw : s.maxEver ≤ n + W) :
    ∃ t', t.reorg W n = some t' ∧ ∀ k, t'.latest k = s.readAt k n :=
  reorg_of_valAt h.inv.cache_nodup fun k =>
    ⟨(eff_ok h.inv k).sorted, by rw [h.cur_eq k n hw, valAt_cur_readAt h]⟩

theorem inv_reorg {W : Nat} {t t' : Table K V} {top n : Nat} (i : Inv t top) (h : t.reorg W n = some t') :
    Inv t' (min top n) := by
  obtain ⟨hc, hk⟩ := reorg_spec_some i.cache_nodup h
  refine inv_of_cache_nil hc fun k => ?_
  obtain ⟨hne, hd, hb⟩ := hk k
  rw [hd, hb, latest_settle]
  exact ⟨((eff_ok i k).cut n hne).settle W n, rfl⟩

/-- The closing `commit n` of a rollback moves the window like any `commit n` (`sim_commit`), hence
`max s.maxEver (n - 1)`; for a legal target, `n ≤ s.maxEver`, that is `s.maxEver` and the log is `s.step (.reorg n)`
itself (`step_sim`). -/
theorem sim_reorg {W : Nat} {t : Table K V} {s : TSpec K V} (h : Sim W t s) (n : Nat)
    (hw : s.maxEver ≤ n + W) :
    ∃ t', t.reorg W n = some t' ∧ Sim W t' { s.step (.reorg n) with maxEver := max s.maxEver (n - 1) } := by
  obtain ⟨t', e, _⟩ := sim_reorg_latest h n hw
  obtain ⟨hc, hk⟩ := reorg_spec_some h.inv.cache_nodup e
  have key : ∀ k m, max s.maxEver (n - 1) ≤ m + W → valAt (disk t' k) m = valAt (cut n (s.cur k)) m := by
    intro k m hm
    obtain ⟨hne, hd, _⟩ := hk k
    rw [hd, valAt_settle ((eff_ok h.inv k).cut n hne) (by omega), valAt_cut (eff_ok h.inv k).sorted,
      h.cur_eq k (min m n) (by omega), valAt_cut (h.cur_ok k).1.sorted]
  have cok : ∀ k, Ok (cut n (s.cur k)) (min s.top n) ∧ Rooted (cut n (s.cur k)) := by
    intro k
    have r := (h.cur_ok k).2.filter n
    refine ⟨(h.cur_ok k).1.cut n ?_, r⟩
    obtain ⟨v, rest, hr⟩ := r
    exact fun e => List.cons_ne_nil _ _ (hr.symm.trans e)
  refine ⟨t', e, inv_reorg h.inv e, cok, cok, ?_, fun k m hm => ?_, key⟩
  · show min s.top n ≤ max s.maxEver (n - 1)
    have := h.top_le; omega
  · rw [eff_of_cache_nil hc]; exact key k m hm

theorem sim_init (W : Nat) : Sim W (Table.empty : Table K V) TSpec.init := by
  have hok : ∀ k : K, Ok (Hist.new (none : Option V)) 0 ∧ Rooted (Hist.new (none : Option V)) :=
    fun _ => ⟨ok_new _ _, none, [], rfl⟩
  exact ⟨inv_of_cache_nil rfl fun k => ⟨ok_new _ _, rfl⟩, hok, hok, Nat.le_refl _, fun _ _ _ => rfl, fun _ _ _ => rfl⟩

theorem sim_latest {W : Nat} {t : Table K V} {s : TSpec K V} (h : Sim W t s) (k : K) :
    t.latest k = s.read k := by
  rw [latest_eff h.inv k]
  exact (eff_ok h.inv k).latest_eq (h.cur_ok k).1 h.top_le (h.cur_eq k s.maxEver (by omega))

theorem step_sim {W : Nat} {t : Table K V} {s : TSpec K V} (h : Sim W t s) (op : TOp K V)
    (hl : TSpec.legal W s op) : ∃ t', t.step W op = some t' ∧ Sim W t' (s.step op) := by
  cases op with
  | set b k v =>
    exact ⟨_, by rw [Table.step, set_eq, set_eq_write ((eff_ok h.inv k).not_stale hl)]; rfl,
      sim_write h b k (some v) hl⟩
  | unset b k =>
    exact ⟨_, by rw [Table.step, unset_eq, unset_eq_write ((eff_ok h.inv k).not_stale hl)]; rfl,
      sim_write h b k none hl⟩
  | commit b => exact ⟨t.commit W b, rfl, sim_commit h b⟩
  | clear => exact ⟨t.clear, rfl, sim_clear h⟩
  | reorg n =>
    obtain ⟨t', e, h'⟩ := sim_reorg h n hl.1
    rw [Nat.max_eq_left (by have := hl.2; omega)] at h'
    exact ⟨t', e, h'⟩

/-- `run_sim` carrying a further invariant `P` of legal steps (user: `cacheAhead_run`) -/
theorem run_sim_and {W : Nat} {P : Table K V → Prop}
    (hP : ∀ {t s}, Sim W t s → P t → ∀ op, TSpec.legal W s op → ∀ t', t.step W op = some t' → P t')
    {t : Table K V} {s : TSpec K V} (h : Sim W t s) (hp : P t) (ops : List (TOp K V))
    (hl : TSpec.legalRun W s ops) : ∃ t', t.run W ops = some t' ∧ Sim W t' (s.run ops) ∧ P t' := by
  induction ops generalizing t s with
  | nil => exact ⟨t, rfl, h, hp⟩
  | cons op ops ih =>
    obtain ⟨t1, e1, h1⟩ := step_sim h op hl.1
    obtain ⟨t2, e2, h2⟩ := ih h1 (hP h hp op hl.1 t1 e1) hl.2
    refine ⟨t2, ?_, ?_⟩
    · simp only [Table.run, e1]; exact e2
    · simpa [TSpec.run] using h2

theorem run_sim {W : Nat} {t : Table K V} {s : TSpec K V} (h : Sim W t s) (ops : List (TOp K V))
    (hl : TSpec.legalRun W s ops) : ∃ t', t.run W ops = some t' ∧ Sim W t' (s.run ops) := by
  obtain ⟨t', e, h', _⟩ := run_sim_and (P := fun _ => True) (fun _ _ _ _ _ _ => trivial) h trivial ops hl
  exact ⟨t', e, h'⟩

/-- `sim_reorg_latest` with the hypothesis `n ≤ maxEver` of a legal `reorg` (`TSpec.legal`), which the reads do not need. -/
theorem rollback_in_window {W : Nat} {t : Table K V} {s : TSpec K V} (h : Sim W t s) (n : Nat)
    (hw : s.maxEver ≤ n + W) (_hn : n ≤ s.maxEver) :
    ∃ t', t.reorg W n = some t' ∧ ∀ k, t'.latest k = s.readAt k n :=
  sim_reorg_latest h n hw

theorem clear_reads_durable {W : Nat} {t : Table K V} {s : TSpec K V} (h : Sim W t s) (k : K) :
    (t.clear).latest k = (s.dur k).latest :=
  sim_latest (sim_clear h) k

/-- No key keeps more than `W + 1` versions, in memory or on disk. -/
def VersionsLe (W : Nat) (t : Table K V) : Prop :=
  (∀ k h, t.cache.get? k = some h → h.length ≤ W + 1) ∧ (∀ k h, t.cdb.get? k = some h → h.length ≤ W + 1)

theorem versionsLe_iff {W : Nat} {t : Table K V} :
    VersionsLe W t ↔ (∀ k h, t.cache.get? k = some h → h.length ≤ W + 1) ∧ ∀ k, (disk t k).length ≤ W + 1 := by
  refine and_congr_right fun _ => ⟨fun hv k => ?_, fun hv k h hd => disk_of_cdb hd ▸ hv k⟩
  cases hd : t.cdb.get? k with
  | some h => rw [disk_of_cdb hd]; exact hv k h hd
  | none => rw [disk_of_cdb_none hd]; simp [Hist.new]

/-! ## a table as its own log

A table with an empty cache simulates the log made of its own persisted histories (each completed with an "absent"
entry at block 0 when pruning removed the oldest entries), as long as the window starts at or above every stamp.
This is what is left to say about a table after a rollback that reached below its window and did not panic. -/

/-- complete a history with an "absent at block 0" entry when it does not start at block 0 -/
def root (h : Hist V) : Hist V :=
  match h with
  | (0, _) :: _ => h
  | _ => (0, none) :: h

theorem rooted_root (h : Hist V) : Rooted (root h) := by
  unfold root
  split
  · rename_i v rest; exact ⟨v, rest, rfl⟩
  · exact ⟨none, h, rfl⟩

theorem ok_root {h : Hist V} {top : Nat} (o : Ok h top) : Ok (root h) top := by
  unfold root
  split
  · exact o
  · rename_i hno
    -- `h` does not start at block 0 and is ascending: all its stamps are positive
    have hpos : ∀ e ∈ h, 0 < e.1 := by
      intro e he
      cases h with
      | nil => cases he
      | cons e0 rest =>
        have h0 : e0.1 ≠ 0 := fun hz => hno e0.2 rest (by rw [← hz])
        rcases List.mem_cons.mp he with rfl | hr
        · omega
        · have := o.sorted.head_lt e hr; omega
    refine ⟨List.pairwise_cons.mpr ⟨hpos, o.sorted⟩, fun e he => ?_, List.cons_ne_nil _ _⟩
    rcases List.mem_cons.mp he with rfl | hr
    · exact Nat.zero_le _
    · exact o.le e hr

theorem latest_root {h : Hist V} (hne : h ≠ []) : Hist.latest (root h) = Hist.latest h := by
  unfold root
  split
  · rfl
  · exact latest_cons_ne_nil hne

def selfSpec (t : Table K V) (top M : Nat) : TSpec K V :=
  { cur := fun k => root (disk t k), dur := fun k => root (disk t k), top := top, maxEver := M }

theorem sim_self {W : Nat} {t : Table K V} {top M : Nat} (i : Inv t top) (hc : t.cache = []) (hM : top + W ≤ M) :
    Sim W t (selfSpec t top M) := by
  have hok : ∀ k, Ok (root (disk t k)) top ∧ Rooted (root (disk t k)) :=
    fun k => ⟨ok_root (disk_ok i k).1, rooted_root _⟩
  have hd : ∀ k m, M ≤ m + W → valAt (disk t k) m = valAt (root (disk t k)) m := by
    intro k m hm
    have o := (disk_ok i k).1
    rw [o.valAt_top (by omega), (ok_root o).valAt_top (by omega), latest_root o.ne]
  exact ⟨i, hok, hok, by show top ≤ M; omega, fun k m hm => by rw [eff_of_cache_nil hc]; exact hd k m hm, hd⟩

end Brc20.Table
