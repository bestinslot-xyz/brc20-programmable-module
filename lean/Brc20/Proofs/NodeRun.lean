/-
The invariant `RInv n G` that ties every table of a node to its plain log, and that every call preserves it
(`RInv.step`); hence it holds of every reachable node (`ReachG.inv`; `Reach`, `ReachG`: Proofs/Ops.lean).

`RInv n G`: every table in simulation with its log (`Table.Sim`), now and after a `clear`; every stamp at or below the
height being built; hash rows gap-free; the windows (`maxEver`) bounded by the highest block ever finalised.
`CoreAt n G e` is its form while a call is writing at stamp `e`. A recorded write touches one versioned table or one
block table, so `CoreAt` is used and re-established by parts (`TAt`: one table and its two logs; `BAt`: the hash table
and the heights), and at a commit point through `RInv.of_commitPoint`.

`ReachG` has one side condition, at `reorg` only: an accepted rollback stays inside the window of the two pending-pool
tables (`Op.inWindow`; for every other table the engine's own acceptance test guarantees it, `RInv.window`). After an
accepted `reorg` that reaches below the window of a pool table (finding F10) and does not panic, `Table.Sim` alone does
not show that the plain log of that table agrees with the table; `Reach.inv` continues such a table with the log of
what it retained (`reorgLogs`, `Table.selfSpec`), `ReachG` excludes such steps.

What does not hold, and what the model checks so that the invariant does:
  * `(G.s i).maxEver ≤ n.nextHeight` and, at a block boundary, `(G.s i).maxEver ≤ n.latestHeight` are FALSE on
    reachable nodes (`maxEver` is never lowered by a rollback) - machine-checked counterexample in `Node.Example`,
    Proofs/Scenario.lean. True instead: `RInv.stamps`.
  * Two checks of `Model/Node.lean` are there for these invariants to hold of every accepted event list: a parked
    submission may only write the pool tables (`poolOnly`, reject `parked-wrote`), and a block-table row must be
    filed under its own stamp (`applyS`: `hexVal key = stamp`). (Two more serve the block-table invariants of
    Proofs/ReachProps.lean: `noBlockWrites` in `addTxs`, `finOnly` in `finaliseOne`.)
-/
import Brc20.Proofs.Ops

namespace Brc20
namespace Node
open BlockDb (Contig nextOf)

/-- highest block ever finalised (`0` before the first) -/
def mb (n : Node) : Nat := n.maxBlock.getD 0

/-- Invariant of every reachable node, relative to a stamp `e` (the height an operation in progress writes at;
between operations `e = n.nextHeight`). Nothing here depends on the block under construction (`lbi`).

Field names: `d..` speaks of `G.d`, the logs as of the last commit, and of what a `clear` would leave (`durNext`,
`durLatest`, the cleared tables); `me` is `maxEver`; `.._np` is for the tables that are not pending-pool tables.
Where `max (n.mb + 1) e` comes from: a submission parked at a block boundary is stamped `nextHeight`, which there can
be `mb + 1`, and the node stays at a boundary; a later `reorg` lowers `nextHeight` but never `maxEver`. -/
structure CoreAt (n : Node) (G : Ghost) (e : Nat) : Prop where
  sim : ∀ i, Table.Sim W (n.t i) (G.s i)
  dsim : ∀ i, Table.Sim W (n.t i).clear (G.d i)
  top_le : ∀ i, (G.s i).top ≤ e
  e_le : e ≤ n.nextHeight
  dtop_le : ∀ i, (G.d i).top ≤ n.durNext
  latest_row : ∀ h x, n.latest = some (h, x) → (n.b .numberToHash).get h ≠ none
  contig : Contig (n.b .numberToHash)
  dcontig : Contig (n.b .numberToHash).clear
  rows_le : ∀ k, (n.b .numberToHash).get k ≠ none → k ≤ max n.mb e
  drows_le : ∀ k, (n.b .numberToHash).clear.get k ≠ none → k ≤ n.mb
  me_le : ∀ i, (G.s i).maxEver ≤ max (n.mb + 1) e
  me_np : ∀ i, i ∉ poolTables → (G.s i).maxEver ≤ max n.mb e
  dme_le : ∀ i, (G.d i).maxEver ≤ max (n.mb + 1) n.durNext
  dme_np : ∀ i, i ∉ poolTables → (G.d i).maxEver ≤ n.mb
  dur_coh : ∀ i, (G.d i).cur = (G.s i).dur ∧ (G.d i).dur = (G.s i).dur
  dtop_np : ∀ i, i ∉ poolTables → (G.d i).top ≤ n.durLatest

/-- what holds in addition at a block boundary (no block under construction) -/
def Bdry (n : Node) (G : Ghost) : Prop :=
  n.lbi.waiting = 0 →
    (∀ k, (n.b .numberToHash).get k ≠ none → k ≤ n.mb) ∧ (∀ i, i ∉ poolTables → (G.s i).maxEver ≤ n.mb) ∧
    (∀ i, i ∉ poolTables → (G.s i).top ≤ n.latestHeight)

/-- The invariant of reachable nodes (`ReachG.inv`): `CoreAt` between calls, i.e. at the height being built, and
`Bdry`. -/
structure RInv (n : Node) (G : Ghost) : Prop where
  core : CoreAt n G n.nextHeight
  bdry : Bdry n G

/-- `CoreAt` for one table `t`, its plain log `s` and its log as of the last commit `d` (fields as there). `e`: the
height being written; `m`: the highest block ever finalised; `dn`, `dl`: the heights a restart would build / stand at;
`np`: the table is not a pending-pool table. -/
structure TAt (t : Table String String) (s d : TSpec String String) (np : Prop) (e m dn dl : Nat) : Prop where
  sim : Table.Sim W t s
  dsim : Table.Sim W t.clear d
  top_le : s.top ≤ e
  dtop_le : d.top ≤ dn
  me_le : s.maxEver ≤ max (m + 1) e
  me_np : np → s.maxEver ≤ max m e
  dme_le : d.maxEver ≤ max (m + 1) dn
  dme_np : np → d.maxEver ≤ m
  dur_coh : d.cur = s.dur ∧ d.dur = s.dur
  dtop_np : np → d.top ≤ dl

/-- `CoreAt` for the block tables: what it says of the hash table and the two heights. -/
structure BAt (n : Node) (e : Nat) : Prop where
  e_le : e ≤ n.nextHeight
  latest_row : ∀ h x, n.latest = some (h, x) → (n.b .numberToHash).get h ≠ none
  contig : Contig (n.b .numberToHash)
  dcontig : Contig (n.b .numberToHash).clear
  rows_le : ∀ k, (n.b .numberToHash).get k ≠ none → k ≤ max n.mb e
  drows_le : ∀ k, (n.b .numberToHash).clear.get k ≠ none → k ≤ n.mb

theorem CoreAt.tAt {n : Node} {G : Ghost} {e : Nat} (h : CoreAt n G e) (i : TId) :
    TAt (n.t i) (G.s i) (G.d i) (i ∉ poolTables) e n.mb n.durNext n.durLatest :=
  ⟨h.sim i, h.dsim i, h.top_le i, h.dtop_le i, h.me_le i, h.me_np i, h.dme_le i, h.dme_np i, h.dur_coh i, h.dtop_np i⟩

theorem CoreAt.bAt {n : Node} {G : Ghost} {e : Nat} (h : CoreAt n G e) : BAt n e :=
  ⟨h.e_le, h.latest_row, h.contig, h.dcontig, h.rows_le, h.drows_le⟩

theorem CoreAt.of_parts {n : Node} {G : Ghost} {e : Nat}
    (ht : ∀ i, TAt (n.t i) (G.s i) (G.d i) (i ∉ poolTables) e n.mb n.durNext n.durLatest) (hb : BAt n e) :
    CoreAt n G e :=
  ⟨fun i => (ht i).sim, fun i => (ht i).dsim, fun i => (ht i).top_le, hb.e_le, fun i => (ht i).dtop_le, hb.latest_row,
    hb.contig, hb.dcontig, hb.rows_le, hb.drows_le, fun i => (ht i).me_le, fun i => (ht i).me_np,
    fun i => (ht i).dme_le, fun i => (ht i).dme_np, fun i => (ht i).dur_coh, fun i => (ht i).dtop_np⟩

theorem TAt.mono {t : Table String String} {s d : TSpec String String} {np : Prop} {e e' m m' dn dl : Nat}
    (h : TAt t s d np e m dn dl) (he : e ≤ e') (hm : m ≤ m') : TAt t s d np e' m' dn dl :=
  { h with
    top_le := Nat.le_trans h.top_le he
    me_le := by have := h.me_le; omega
    me_np := fun p => by have := h.me_np p; omega
    dme_le := by have := h.dme_le; omega
    dme_np := fun p => Nat.le_trans (h.dme_np p) hm }

theorem CoreAt.mono {n : Node} {G : Ghost} {e e' : Nat} (h : CoreAt n G e) (h1 : e ≤ e') (h2 : e' ≤ n.nextHeight) :
    CoreAt n G e' :=
  .of_parts (fun i => (h.tAt i).mono h1 (Nat.le_refl _))
    { h.bAt with e_le := h2, rows_le := fun k hk => by have := h.rows_le k hk; omega }

theorem CoreAt.lbi {n : Node} {G : Ghost} {e : Nat} (h : CoreAt n G e) (l : Lbi) : CoreAt { n with lbi := l } G e :=
  { h with }

theorem TAt.write {t t' : Table String String} {s d : TSpec String String} {np : Prop} {e m dn dl : Nat}
    (h : TAt t s d np e m dn dl) {k : String} {v : Option String} (ht : t.step W (Ghost.wop e k v) = some t') :
    TAt t' (s.step (Ghost.wop e k v)) d np e m dn dl := by
  obtain ⟨_, e1, s1⟩ := Table.step_sim h.sim _ (wop_legal h.top_le k v)
  rw [ht] at e1; cases e1
  refine { h with sim := s1, dsim := ?_, top_le := ?_, me_le := ?_, me_np := ?_, dur_coh := ?_ }
  · rw [Table.step_wop_clear ht]; exact h.dsim
  · rw [wop_top]; exact Nat.le_refl _
  · rw [wop_maxEver]; have := h.me_le; omega
  · intro hp; rw [wop_maxEver]; have := h.me_np hp; omega
  · rw [wop_dur]; exact h.dur_coh

theorem CoreAt.write {n : Node} {G : Ghost} {e : Nat} (h : CoreAt n G e) (i : TId) (key : String)
    (value : Option String) {t' : Table String String}
    (ht : (n.t i).step W (Ghost.wop e key value) = some t') :
    CoreAt (n.setT i t') (G.upd i (Ghost.wop e key value)) e := by
  -- `BAt` reads `n.b`, `n.latest` and `n.maxBlock` only, which `setT` leaves as they are: the same fields
  refine .of_parts (fun j => ?_) { h.bAt with }
  show TAt (if j = i then t' else n.t j) (if j = i then (G.s i).step (Ghost.wop e key value) else G.s j) (G.d j)
    _ e n.mb n.durNext n.durLatest
  by_cases hj : j = i
  · subst hj; simp only [if_true]; exact (h.tAt j).write ht
  · simp only [hj, if_false]; exact h.tAt j

theorem setB_clear (n : Node) (bi : BId) (e : Nat) (v : String) (j : BId) :
    ((n.setB bi ((n.b bi).set e v)).b j).clear = (n.b j).clear := by
  by_cases hj : j = bi
  · subst hj; simp only [setB, if_true]; rfl
  · simp only [setB, hj, if_false]

theorem BAt.row {n : Node} {e : Nat} (h : BAt n e) (bi : BId) (v : String) : BAt (n.setB bi ((n.b bi).set e v)) e := by
  have hC := setB_clear n bi e v .numberToHash
  by_cases hb : bi = .numberToHash
  · -- the hash table gets the row `e`, at most one above its newest row
    subst hb
    have hB : (n.setB .numberToHash ((n.b .numberToHash).set e v)).b .numberToHash = (n.b .numberToHash).set e v := by
      rw [setB_b, if_pos rfl]
    have hadj : e ≤ nextOf (n.b .numberToHash).lastKey := Nat.le_trans h.e_le (nextHeight_le_nextOf h.latest_row)
    have hrows : ∀ k, (n.b .numberToHash).get k ≠ none → ((n.b .numberToHash).set e v).get k ≠ none := by
      intro k hk
      rw [BlockDb.get_set]
      split
      · exact Option.some_ne_none v
      · exact hk
    refine ⟨Nat.le_trans h.e_le (nextHeight_mono rfl (by rw [hB]; exact hrows)), ?_, ?_, ?_, ?_, ?_⟩
    · intro a x hl; rw [hB]; exact hrows a (h.latest_row a x hl)
    · rw [hB]; exact BlockDb.contig_set h.contig e v hadj
    · rw [hC]; exact h.dcontig
    · intro k hk
      rw [hB, BlockDb.get_set] at hk
      split at hk
      · rename_i hke; rw [hke]; exact Nat.le_max_right _ _
      · exact h.rows_le k hk
    · rw [hC]; exact h.drows_le
  · have hB : (n.setB bi ((n.b bi).set e v)).b .numberToHash = n.b .numberToHash := by
      rw [setB_b, if_neg fun x => hb x.symm]
    have hN : (n.setB bi ((n.b bi).set e v)).nextHeight = n.nextHeight := by
      rw [nextHeight_eq, nextHeight_eq, hB]; rfl
    exact ⟨by rw [hN]; exact h.e_le, by rw [hB]; exact h.latest_row, by rw [hB]; exact h.contig,
      by rw [hB]; exact h.dcontig, by rw [hB]; exact h.rows_le, by rw [hB]; exact h.drows_le⟩

theorem CoreAt.row {n : Node} {G : Ghost} {e : Nat} (h : CoreAt n G e) (bi : BId) (v : String) :
    CoreAt (n.setB bi ((n.b bi).set e v)) G e := by
  refine .of_parts (fun i => ?_) (h.bAt.row bi v)
  have hC := setB_clear n bi e v .numberToHash
  show TAt (n.t i) (G.s i) (G.d i) _ e n.mb
    (nextOf ((n.setB bi ((n.b bi).set e v)).b .numberToHash).clear.lastKey)
    (((n.setB bi ((n.b bi).set e v)).b .numberToHash).clear.lastKey.getD 0)
  rw [hC]; exact h.tAt i

theorem CoreAt.events {n n' : Node} {G : Ghost} {e : Nat} {evs : List Ev} (h : CoreAt n G e)
    (ha : applyEvents n e evs = some n') : CoreAt n' (G.events evs) e :=
  applyEvents_induction (motive := fun n G => CoreAt n G e) (fun _ _ i k v _ h _ ht => h.write i k v ht)
    (fun _ _ i _ x h _ _ => h.row i x) ha h

theorem poolOnly_mem {evs : List Ev} (hp : poolOnly evs = true) {tb : String} {st : Nat} {k : String}
    {v : Option String} (hm : Ev.s tb st k v ∈ evs) : ∃ i ∈ poolTables, tb = i.name := by
  have := List.all_eq_true.mp hp _ hm
  simpa [poolTables] using this

theorem applyEvents_pool_frame {n n' : Node} {e : Nat} {evs : List Ev} (hp : poolOnly evs = true)
    (ha : applyEvents n e evs = some n') : n'.b = n.b :=
  applyEvents_induction' (motive := fun m => m.b = n.b) (fun _ _ _ _ _ h _ _ => h)
    (fun _ i _ _ _ hm _ => by
      obtain ⟨j, _, hj⟩ := poolOnly_mem hp hm
      rw [← TId.ofName_eq_some, TId.ofName_bname] at hj; cases hj)
    ha rfl

theorem events_pool_frame {n n' : Node} {G : Ghost} {e : Nat} {evs : List Ev} (hp : poolOnly evs = true)
    (ha : applyEvents n e evs = some n') {j : TId} (hj : j ∉ poolTables) : (G.events evs).s j = G.s j :=
  applyEvents_induction (motive := fun _ G' => G'.s j = G.s j)
    (fun _ G' i k v _ h hm _ => by
      obtain ⟨i', hi', e'⟩ := poolOnly_mem hp hm
      have hji : j ≠ i := fun x => hj (x ▸ TId.name_inj e' ▸ hi')
      simpa only [Ghost.upd, hji, if_false] using h)
    (fun _ _ _ _ _ h _ _ => h) ha rfl

theorem RInv.next_le {n : Node} {G : Ghost} (h : RInv n G) (hw : n.lbi.waiting = 0) : n.nextHeight ≤ n.mb + 1 :=
  Nat.le_trans (nextHeight_le_nextOf h.core.latest_row) (BlockDb.lastKey_le (h.bdry hw).1).2

/-- the bookkeeping of `finalise_block` after its writes: height, highest block, empty block under construction -/
theorem CoreAt.finalise {n : Node} {G : Ghost} {bn : Nat} (h : CoreAt n G bn) (hash : String) (mx : Option Nat)
    (hmx : mx.getD 0 = max n.mb bn) (hrow : (n.b .numberToHash).get bn ≠ none) :
    RInv { n with latest := some (bn, hash), maxBlock := mx, lbi := {} } G := by
  have hmb : ({ n with latest := some (bn, hash), maxBlock := mx, lbi := {} } : Node).mb = max n.mb bn := hmx
  refine ⟨.of_parts (fun i => ?_) ⟨Nat.le_refl _, ?_, h.contig, h.dcontig, ?_, ?_⟩, fun _ => ⟨?_, ?_, fun i _ => h.top_le i⟩⟩
  · show TAt (n.t i) (G.s i) (G.d i) _ (bn + 1) _ n.durNext n.durLatest
    rw [hmb]; exact (h.tAt i).mono (Nat.le_succ _) (Nat.le_max_left _ _)
  · intro h' x hl
    simp only [Option.some.injEq, Prod.mk.injEq] at hl
    rw [← hl.1]; exact hrow
  · intro k hk; rw [hmb]; have := h.rows_le k hk; show k ≤ max _ (bn + 1); omega
  · intro k hk; rw [hmb]; have := h.drows_le k hk; omega
  · intro k hk; rw [hmb]; exact h.rows_le k hk
  · intro i hi; rw [hmb]; exact h.me_np i hi

/-- **A commit point** (`commit_changes`, `clear_caches`, the end of `reorg`): caches empty, no in-memory height, so
the heights are those of the hash table and the log as of the last commit is the current one. -/
theorem RInv.of_commitPoint {n : Node} {S : GSpec} (hl : n.latest = none)
    (hbc : (n.b .numberToHash).clear = n.b .numberToHash) (hc : Contig (n.b .numberToHash))
    (hrows : ∀ k, (n.b .numberToHash).get k ≠ none → k ≤ n.mb)
    (hs : ∀ i, Table.Sim W (n.t i) (S i)) (htc : ∀ i, (n.t i).clear = n.t i) (hcoh : ∀ i, (S i).cur = (S i).dur)
    (htop : ∀ i, (S i).top ≤ n.nextHeight) (hme : ∀ i, (S i).maxEver ≤ max (n.mb + 1) n.nextHeight)
    (hnp : ∀ i, i ∉ poolTables → (S i).maxEver ≤ n.mb ∧ (S i).top ≤ n.latestHeight) : RInv n ⟨S, S⟩ := by
  have hdn := durNext_of_commitPoint hl hbc
  have hdl := durLatest_of_commitPoint hl hbc
  exact {
    core := {
      sim := hs
      dsim := fun i => by rw [htc]; exact hs i
      top_le := htop
      e_le := Nat.le_refl _
      dtop_le := by rw [hdn]; exact htop
      latest_row := fun _ _ hx => by rw [hl] at hx; cases hx
      contig := hc
      dcontig := by rw [hbc]; exact hc
      rows_le := fun k hk => Nat.le_trans (hrows k hk) (Nat.le_max_left _ _)
      drows_le := by rw [hbc]; exact hrows
      me_le := hme
      me_np := fun i hi => Nat.le_trans (hnp i hi).1 (Nat.le_max_left _ _)
      dme_le := by rw [hdn]; exact hme
      dme_np := fun i hi => (hnp i hi).1
      dur_coh := fun i => ⟨hcoh i, rfl⟩
      dtop_np := fun i hi => by rw [hdl]; exact (hnp i hi).2 }
    bdry := fun _ => ⟨hrows, fun i hi => (hnp i hi).1, fun i hi => (hnp i hi).2⟩ }

theorem RInv.commitAll {n : Node} {G : Ghost} (h : RInv n G) (hw : n.lbi.waiting = 0) :
    RInv n.commitAll (G.commit n.nextHeight) := by
  have hc := h.core
  obtain ⟨hb1, hb2, hb3⟩ := h.bdry hw
  have hB : (n.commitAll.b .numberToHash) = (n.b .numberToHash).commit.clear := rfl
  have hN : n.nextHeight ≤ nextOf (n.b .numberToHash).lastKey := nextHeight_le_nextOf hc.latest_row
  have hnb : n.nextHeight - 1 ≤ n.mb := by have := h.next_le hw; omega
  refine .of_commitPoint rfl rfl (BlockDb.contig_commit_clear hc.contig) ?_
    (fun i => Table.sim_commit (hc.sim i) n.nextHeight) (fun _ => rfl) (fun _ => rfl) ?_ ?_ ?_
  · intro k; rw [hB, BlockDb.get_commit_clear]; exact hb1 k
  · intro i; rw [commitAll_nextHeight]; exact Nat.le_trans (hc.top_le i) hN
  · intro i
    rw [commitAll_nextHeight]
    -- `TSpec.step (.commit b)` sets `maxEver := max maxEver (b - 1)`
    show max (G.s i).maxEver (n.nextHeight - 1) ≤ max (n.mb + 1) _
    have := hc.me_le i
    omega
  · intro i hi
    refine ⟨?_, ?_⟩
    · show max (G.s i).maxEver (n.nextHeight - 1) ≤ n.mb
      have := hb2 i hi
      omega
    · rw [commitAll_latestHeight]; exact Nat.le_trans (hb3 i hi) (latestHeight_le_lastKey hc.latest_row)

theorem RInv.clear {n : Node} {G : Ghost} (h : RInv n G) : RInv (n.clear).1 G.clear := by
  have hc := h.core
  refine .of_commitPoint rfl rfl hc.dcontig hc.drows_le hc.dsim (fun _ => rfl) ?_ ?_ ?_ ?_
  · intro i; have := hc.dur_coh i; exact this.1.trans this.2.symm
  · intro i; rw [clear_nextHeight]; exact hc.dtop_le i
  · intro i; rw [clear_nextHeight]; exact hc.dme_le i
  · intro i hi; exact ⟨hc.dme_np i hi, hc.dtop_np i hi⟩

theorem CoreAt.clear_reads {n : Node} {G : Ghost} {e : Nat} (h : CoreAt n G e) :
    (∀ i k, ((n.clear).1.t i).latest k = (G.d i).read k) ∧ (∀ i k, (G.d i).read k = ((G.s i).dur k).latest) :=
  ⟨fun i k => Table.sim_latest (h.dsim i) k, fun i k => congrArg (fun c => (c k).latest) (h.dur_coh i).1⟩

/-- the next height is `target + 1`, or still `0` on an empty database -/
theorem CoreAt.reorg_heights {n : Node} {G : Ghost} {e : Nat} (h : CoreAt n G e) {target : Nat}
    (hok : (n.reorg target).2 = .ok) :
    (n.reorg target).1.latestHeight = target ∧ target ≤ (n.reorg target).1.nextHeight ∧
      (n.reorg target).1.nextHeight ≤ target + 1 ∧ (n.reorg target).1.nextHeight ≤ n.nextHeight := by
  have ht : target ≤ n.latestHeight := (not_refused_iff.mp (reorg_ok n target hok).1).2.1
  obtain ⟨h1, h2, h3, h4⟩ :=
    BlockDb.lastKey_reorg h.contig (Nat.le_trans ht (latestHeight_le_lastKey h.latest_row))
  rw [reorg_ok_latestHeight hok, reorg_ok_nextHeight hok]
  refine ⟨h1, h2, h3, ?_⟩
  rw [nextHeight_eq]
  rw [latestHeight_eq] at ht
  cases hx : n.latest with
  | none => exact h4
  | some p => rw [hx] at ht; exact Nat.le_trans h3 (Nat.succ_le_succ ht)

theorem CoreAt.reorgNb_bounds {n : Node} {G : Ghost} {e : Nat} (h : CoreAt n G e) {target : Nat}
    (hok : (n.reorg target).2 = .ok) : target ≤ reorgNb n target ∧ reorgNb n target ≤ n.nextHeight := by
  have ht : target ≤ n.latestHeight := (not_refused_iff.mp (reorg_ok n target hok).1).2.1
  obtain ⟨_, h2, _, h4⟩ := h.reorg_heights hok
  rw [reorg_ok_nextHeight hok] at h2 h4
  unfold reorgNb
  rw [nextHeight_eq] at h4 ⊢
  rw [latestHeight_eq] at ht
  cases hx : n.latest with
  | none => rw [hx] at h4; exact ⟨h2, h4⟩
  | some p => rw [hx] at ht; exact ⟨Nat.le_succ_of_le ht, Nat.le_refl _⟩

/-- The plain logs after a `reorg` that answered `ok`: cut at the target and committed (`Ghost.reorg`) for every
table whose window reaches the target; a table whose window does not (only a pending-pool table can be in that
position, finding F10) and whose rollback nevertheless did not panic continues with the log made of what it retained
(`Table.selfSpec`). -/
def reorgLogs (n : Node) (G : Ghost) (target : Nat) : GSpec := fun i =>
  if (G.s i).maxEver ≤ target + W then (G.reorg target (reorgNb n target)).s i
  else Table.selfSpec ((n.reorg target).1.t i) (min (G.s i).top target)
    (max (G.s i).maxEver (reorgNb n target - 1))

theorem RInv.reorg_of_ok {n : Node} {G : Ghost} (h : RInv n G) {target : Nat} (hok : (n.reorg target).2 = .ok) :
    RInv (n.reorg target).1 ⟨reorgLogs n G target, reorgLogs n G target⟩ := by
  have hc := h.core
  have hw : n.lbi.waiting = 0 := (not_refused_iff.mp (reorg_ok n target hok).1).1
  obtain ⟨hb1, hb2, _⟩ := h.bdry hw
  have hnext := h.next_le hw
  obtain ⟨hlh, hnx, _, _⟩ := hc.reorg_heights hok
  obtain ⟨hN1, hN2⟩ := hc.reorgNb_bounds hok
  obtain ⟨f, hf, e⟩ := reorg_ok_eq hok
  have hmb : (n.reorg target).1.mb = n.mb := by rw [e]; rfl
  have hT : ∀ i, (n.reorg target).1.t i = (f i).commit W (reorgNb n target) := fun i => by rw [e]
  have htop : ∀ i, (reorgLogs n G target i).top = min (G.s i).top target := fun i => by
    unfold reorgLogs; split <;> rfl
  have hme : ∀ i, (reorgLogs n G target i).maxEver = max (G.s i).maxEver (reorgNb n target - 1) := fun i => by
    unfold reorgLogs; split <;> rfl
  refine .of_commitPoint (by rw [e]) (by rw [e]; rfl) ?_ ?_ ?_ (fun i => by rw [hT]; rfl)
    (fun i => by unfold reorgLogs; split <;> rfl) ?_ ?_ ?_
  · rw [e]; exact BlockDb.contig_commit_clear (BlockDb.contig_reorg hc.contig target)
  · intro k
    rw [reorg_get hok, hmb]
    split
    · exact hb1 k
    · exact fun hk => absurd rfl hk
  · intro i
    unfold reorgLogs
    split
    · rename_i hwin
      obtain ⟨t', e', s'⟩ := Table.sim_reorg (hc.sim i) target hwin
      rw [hf i, Option.some.injEq] at e'
      subst e'
      have := Table.sim_commit s' (reorgNb n target)
      -- the closing commit at `reorgNb ≥ target` moves the window at least as far as the rollback did
      have hm : max (max (G.s i).maxEver (target - 1)) (reorgNb n target - 1) =
          max (G.s i).maxEver (reorgNb n target - 1) := by
        rw [Nat.max_assoc, Nat.max_eq_right (Nat.sub_le_sub_right hN1 1)]
      rw [hT]
      simp only [hm] at this
      exact this
    · rename_i hout
      have i1 := Table.inv_reorg (hc.sim i).inv (hf i)
      rw [hT]
      -- `hout`: `maxEver > target + W ≥ min top target + W`, which is what `sim_self` asks of its window
      exact Table.sim_self (Table.inv_commit W _ i1) (Table.commit_cache W _ _) (by omega)
  · intro i; rw [htop]; exact Nat.le_trans (Nat.min_le_right _ _) hnx
  · intro i; rw [hme, hmb]; have := hc.me_le i; omega
  · intro i hi
    rw [hme, htop, hmb, hlh]
    have := hb2 i hi
    exact ⟨by omega, Nat.min_le_right _ _⟩

theorem RInv.reorg_of_window {n : Node} {G : Ghost} (h : RInv n G) {target : Nat} (hnr : ¬ Refused n target)
    (hwin : ∀ i, (G.s i).maxEver ≤ target + W) :
    (n.reorg target).2 = .ok ∧
    (∀ i k, ((n.reorg target).1.t i).latest k = (G.s i).readAt k target) ∧
    RInv (n.reorg target).1 (G.reorg target (reorgNb n target)) := by
  obtain ⟨hok, hread⟩ := reorg_restores_of_sim h.core.sim hnr hwin
  have hG : reorgLogs n G target = (G.reorg target (reorgNb n target)).s := funext fun i => if_pos (hwin i)
  have := h.reorg_of_ok hok
  rw [hG] at this
  exact ⟨hok, hread, this⟩

/-! ## Every call keeps the invariant -/

theorem RInv.tx {n n' : Node} {G : Ghost} (h : RInv n G) {ts : Nat} {hash : String} {txid : Option String}
    {evs : List Ev} {k : Option Nat} (a : TxAccepted n ts hash txid evs k n') :
    RInv { n' with lbi := bumpLbi (startLbi n ts hash) (txRuns evs) } (G.events evs) :=
  have hc := h.core.events a.applied
  ⟨(hc.mono hc.e_le (Nat.le_refl _)).lbi _, fun h0 => absurd h0 (a.waiting_ne _)⟩

theorem RInv.fin {n n' : Node} {G : Ghost} (h : RInv n G) {hash : String} {evs : List Ev}
    (f : FinAccepted n hash evs n') : RInv (finalised n' n.nextHeight hash) (G.events evs) :=
  (h.core.events f.applied).finalise _ _ (finalised_mb n' n.nextHeight hash) (by rw [f.hashRow]; exact nofun)

theorem RInv.parked {n n' : Node} {G : Ghost} (h : RInv n G) {evs : List Ev} (hp : poolOnly evs = true)
    (ha : applyEvents n n.nextHeight evs = some n') : RInv n' (G.events evs) := by
  have hc := h.core.events ha
  obtain ⟨hlbi, hlat, hmx⟩ := applyEvents_fields ha
  have hb : n'.b = n.b := applyEvents_pool_frame hp ha
  have hmb : n'.mb = n.mb := by unfold mb; rw [hmx]
  refine ⟨hc.mono hc.e_le (Nat.le_refl _), ?_⟩
  intro hw
  rw [hlbi] at hw
  obtain ⟨h1, h2, h3⟩ := h.bdry hw
  have hlh : n'.latestHeight = n.latestHeight := by
    rw [latestHeight_eq, latestHeight_eq, hlat, hb]
  refine ⟨?_, ?_, ?_⟩
  · intro k; rw [hb, hmb]; exact h1 k
  · intro i hi; rw [events_pool_frame hp ha hi, hmb]; exact h2 i hi
  · intro i hi; rw [events_pool_frame hp ha hi, hlh]; exact h3 i hi

theorem RInv.commit {n : Node} {G : Ghost} (h : RInv n G) : RInv n.commit.1 (gCommit n G) := by
  unfold gCommit
  by_cases hw : n.lbi.waiting = 0
  · rw [commit_of_boundary hw, if_neg (not_not_intro hw)]; exact h.commitAll hw
  · rw [commit_of_waiting hw, if_pos hw]; exact h

theorem RInv.reopen {n : Node} {G : Ghost} (h : RInv n G) : RInv n.reopen G.clear := h.clear

theorem RInv.window {n : Node} {G : Ghost} (h : RInv n G) {target : Nat} (hnr : ¬ Refused n target)
    (hpool : ∀ i, i ∈ poolTables → (G.s i).maxEver ≤ target + W) : ∀ i, (G.s i).maxEver ≤ target + W := by
  intro i
  by_cases hi : i ∈ poolTables
  · exact hpool i hi
  · obtain ⟨hw, _, _, hm⟩ := not_refused_iff.mp hnr
    have := (h.bdry hw).2.1 i hi
    unfold mb at this
    omega

theorem RInv.reorg {n : Node} {G : Ghost} (h : RInv n G) (target : Nat)
    (hpool : ¬ Refused n target → ∀ i, i ∈ poolTables → (G.s i).maxEver ≤ target + W) :
    RInv (n.reorg target).1 (gReorg n G target) := by
  unfold gReorg
  by_cases hok : (n.reorg target).2 = .ok
  · have hnr := (reorg_ok n target hok).1
    rw [if_pos hok]
    exact (h.reorg_of_window hnr (h.window hnr (hpool hnr))).2.2
  · rw [if_neg hok, reorg_fst_of_ne_ok hok]; exact h

theorem RInv.init : RInv ({} : Node) Ghost.init :=
  .of_commitPoint rfl rfl (fun e he => by cases he) (fun k hk => absurd rfl hk) (fun _ => Table.sim_init W)
    (fun _ => rfl) (fun _ => rfl) (fun _ => Nat.zero_le _) (fun _ => Nat.zero_le _)
    (fun _ _ => ⟨Nat.zero_le _, Nat.zero_le _⟩)

theorem Prim.rinv {n n' : Node} {G G' : Ghost} (p : Prim n G n' G') (h : RInv n G) : RInv n' G' := by
  cases p with
  | tx a => exact h.tx a
  | parked _ _ _ hp _ ha => exact h.parked hp ha
  | fin f => exact h.fin f
  | clear => exact h.clear

theorem RInv.step {n : Node} {G : Ghost} (h : RInv n G) (op : Op) (hw : op.inWindow n G) :
    RInv (op.run n).1 (op.ghost n G) := by
  cases op with
  | commit => exact h.commit
  | reorg target => exact h.reorg target hw
  | _ => exact (Op.steps _ rfl n G).ind (fun p h => p.rinv h) h

theorem RInv.addRawTx {n : Node} {G : Ghost} (h : RInv n G) (ts : Nat) (hash0 : String) (idx : Nat) (txid : String)
    (dec : RawDecode) (evs : List Ev) :
    RInv (n.addRawTx ts hash0 idx txid dec evs).1 (gAddRawTx n G ts hash0 idx txid dec evs) :=
  h.step (.addRawTx ts hash0 idx txid dec evs) trivial

theorem RInv.initialise {n : Node} {G : Ghost} (h : RInv n G) (hash0 : String) (ts height : Nat) (evs : List Ev) :
    RInv (n.initialise hash0 ts height evs).1 (gInitialise n G hash0 ts height evs) :=
  h.step (.initialise hash0 ts height evs) trivial

theorem ReachG.inv {n : Node} {G : Ghost} (h : ReachG n G) : RInv n G := by
  induction h with
  | init => exact RInv.init
  | step op _ _ hw ih => exact ih.step op hw

theorem ReachG.reach {n : Node} {G : Ghost} (h : ReachG n G) : Reach n := by
  induction h with
  | init => exact Reach.init
  | step op _ ha _ ih => exact Reach.step op ih ha

/-! ## What reachable nodes satisfy -/

theorem ReachG.sim {n : Node} {G : Ghost} (h : ReachG n G) : NodeSim n G.s := ⟨h.inv.core.sim⟩

theorem RInv.stamps {n : Node} {G : Ghost} (h : RInv n G) :
    (∀ i, (G.s i).top ≤ n.nextHeight) ∧
    (∀ i, (G.s i).maxEver ≤ max (n.mb + 1) n.nextHeight) ∧
    (∀ i, i ∉ poolTables → (G.s i).maxEver ≤ max n.mb n.nextHeight) ∧
    (n.lbi.waiting = 0 → ∀ i, i ∉ poolTables → (G.s i).maxEver ≤ n.mb) ∧
    (n.lbi.waiting = 0 → ∀ i, i ∉ poolTables → (G.s i).top ≤ n.latestHeight) ∧
    (n.lbi.waiting = 0 → n.latestHeight ≤ n.mb) := by
  refine ⟨h.core.top_le, h.core.me_le, h.core.me_np, fun hw => (h.bdry hw).2.1, fun hw => (h.bdry hw).2.2, ?_⟩
  exact fun hw => Nat.le_trans (latestHeight_le_lastKey h.core.latest_row) (BlockDb.lastKey_le (h.bdry hw).1).1

/-- **C01** on a node satisfying the invariant. `hpool`: the two pending-pool tables have not been passed a block
number above the tip (the current height or the highest block ever finalised, whichever is larger). -/
theorem RInv.reorg_restores {n : Node} {G : Ghost} (h : RInv n G) {target : Nat} (hnr : ¬ Refused n target)
    (hpool : ∀ i, i ∈ poolTables → (G.s i).maxEver ≤ max n.latestHeight n.mb) :
    (n.reorg target).2 = .ok ∧ ∀ i k, ((n.reorg target).1.t i).latest k = (G.s i).readAt k target := by
  have hwin : ∀ i, i ∈ poolTables → (G.s i).maxEver ≤ target + W := by
    intro i hi
    have := hpool i hi
    obtain ⟨_, h2, h3, h4⟩ := not_refused_iff.mp hnr
    unfold mb at this
    omega
  obtain ⟨h1, h2, _⟩ := h.reorg_of_window hnr (h.window hnr hwin)
  exact ⟨h1, h2⟩

theorem ReachG.reorg_restores {n : Node} {G : Ghost} (h : ReachG n G) {target : Nat} (hnr : ¬ Refused n target)
    (hpool : ∀ i, i ∈ poolTables → (G.s i).maxEver ≤ max n.latestHeight n.mb) :
    (n.reorg target).2 = .ok ∧ ∀ i k, ((n.reorg target).1.t i).latest k = (G.s i).readAt k target :=
  h.inv.reorg_restores hnr hpool

/-- the same with the hypothesis in its simplest form (it can only hold while no earlier `reorg` has lowered the
height below a block the pool tables were committed at) -/
theorem ReachG.reorg_restores' {n : Node} {G : Ghost} (h : ReachG n G) {target : Nat} (hnr : ¬ Refused n target)
    (hpool : ∀ i, i ∈ poolTables → (G.s i).maxEver ≤ n.latestHeight) :
    (n.reorg target).2 = .ok ∧ ∀ i k, ((n.reorg target).1.t i).latest k = (G.s i).readAt k target :=
  h.reorg_restores hnr (fun i hi => Nat.le_trans (hpool i hi) (Nat.le_max_left _ _))

/-! ## Every step, the `reorg` of finding F10 included -/

theorem RInv.step_some {n : Node} {G : Ghost} (h : RInv n G) (op : Op) : ∃ G', RInv (op.run n).1 G' := by
  cases op with
  | reorg target =>
    by_cases hok : (n.reorg target).2 = .ok
    · exact ⟨_, h.reorg_of_ok hok⟩
    · exact ⟨G, (reorg_fst_of_ne_ok hok).symm ▸ h⟩
  | _ => exact ⟨_, h.step _ trivial⟩

theorem Reach.inv {n : Node} (h : Reach n) : ∃ G, RInv n G := by
  induction h with
  | init => exact ⟨_, RInv.init⟩
  | step op _ _ ih => obtain ⟨G, hG⟩ := ih; exact hG.step_some op

theorem Reach.sim {n : Node} (h : Reach n) : ∃ g, NodeSim n g := by
  obtain ⟨G, hG⟩ := h.inv
  exact ⟨G.s, ⟨hG.core.sim⟩⟩

end Node
end Brc20
