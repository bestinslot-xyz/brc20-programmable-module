/-
What every reachable node satisfies beyond `RInv` (Proofs/NodeRun.lean), about the node alone.

Three invariants of the block tables (`HInv`, `BInv`, `SInv`), each preserved by every call whatever it answers.
A call that is not a commit point is a chain of four steps (`Op.steps`) whose recorded writes file block rows under one
number and write caches only (`BStep`, `ClearEq`); `commit` and `reorg` leave the block tables of before restricted to
some numbers, caches empty (`CommitRows`). From the invariants: `HeightInv` (Proofs/NodeSim.lean), mid-block included;
`Reach.heights`; `Reach.block_rows`. Also: what recorded writes leave alone; the logs as of the last commit change at
commit points only; no versioned table binds a key twice; `mine` cannot answer an error once its pre-checks have passed.

`Model/Node.lean` refuses event lists the engine never produces, for the sake of these invariants: block-table writes
in a call that adds transactions (`noBlockWrites`, reject `tx-wrote-block-table`; with them `HeightInv` fails mid-block
and the three tables need not hold rows for the same numbers), and in a finalise anything but the rows of its own
block, the hash-index row keyed by its own hash and pool removals (`finOnly`, reject `fin-wrote`; with an additional
`block_hash_to_number` row `mine` could answer `err "exists"` after having finalised a block). Examples of rejected
event lists are in `Brc20/Props/C03.lean`, `C05.lean`, `C06.lean`.
-/
import Brc20.Proofs.NodeRun

namespace Brc20
open Node

namespace Node
open BlockDb (Contig nextOf)

/-! ## What the recorded writes of one call do to the block tables -/

/-- `n'` is `n` after some block-table rows were filed under the number `e` (and any versioned-table writes). -/
structure BStep (e : Nat) (n n' : Node) : Prop where
  lbi : n'.lbi = n.lbi
  latest : n'.latest = n.latest
  maxBlock : n'.maxBlock = n.maxBlock
  other : ∀ i k, k ≠ e → (n'.b i).get k = (n.b i).get k
  kept : ∀ i, (n.b i).get e ≠ none → (n'.b i).get e ≠ none
  nodup : (∀ i, AMap.Nodup (n.b i).db ∧ AMap.Nodup (n.b i).cache) →
    ∀ i, AMap.Nodup (n'.b i).db ∧ AMap.Nodup (n'.b i).cache
  tclear : ∀ i, (n'.t i).clear = (n.t i).clear
  bclear : ∀ i, (n'.b i).clear = (n.b i).clear

theorem BStep.refl (e : Nat) (n : Node) : BStep e n n :=
  ⟨rfl, rfl, rfl, fun _ _ _ => rfl, fun _ h => h, fun h => h, fun _ => rfl, fun _ => rfl⟩

theorem BStep.trans {e : Nat} {a b c : Node} (h1 : BStep e a b) (h2 : BStep e b c) : BStep e a c :=
  ⟨h2.lbi.trans h1.lbi, h2.latest.trans h1.latest, h2.maxBlock.trans h1.maxBlock,
    fun i k hk => (h2.other i k hk).trans (h1.other i k hk), fun i h => h2.kept i (h1.kept i h),
    fun h => h2.nodup (h1.nodup h), fun i => (h2.tclear i).trans (h1.tclear i),
    fun i => (h2.bclear i).trans (h1.bclear i)⟩

theorem BStep.rows {e : Nat} {n n' : Node} (h : BStep e n n') (i : BId) {k : Nat} (hk : (n.b i).get k ≠ none) :
    (n'.b i).get k ≠ none := by
  by_cases hke : k = e
  · subst hke; exact h.kept i hk
  · rw [h.other i k hke]; exact hk

theorem BStep.rows_inv {e : Nat} {n n' : Node} (h : BStep e n n') (i : BId) {k : Nat} (hk : (n'.b i).get k ≠ none) :
    (n.b i).get k ≠ none ∨ k = e := by
  by_cases hke : k = e
  · exact Or.inr hke
  · rw [h.other i k hke] at hk; exact Or.inl hk

theorem BStep.nextHeight_le {e : Nat} {n n' : Node} (h : BStep e n n') : n.nextHeight ≤ n'.nextHeight :=
  nextHeight_mono h.latest.symm fun _ => h.rows .numberToHash

theorem BStep.durNext {e : Nat} {n n' : Node} (h : BStep e n n') : n'.durNext = n.durNext :=
  congrArg (fun b : BlockDb String => nextOf b.lastKey) (h.bclear .numberToHash)

theorem BStep.write {e : Nat} {n : Node} {i : TId} {k : String} {v : Option String} {t' : Table String String}
    (ht : (n.t i).step W (Ghost.wop e k v) = some t') : BStep e n (n.setT i t') := by
  refine ⟨rfl, rfl, rfl, fun _ _ _ => rfl, fun _ h => h, fun h => h, fun j => ?_, fun _ => rfl⟩
  show (if j = i then t' else n.t j).clear = _
  split
  · rename_i hj; rw [hj]; exact Table.step_wop_clear ht
  · rfl

theorem BStep.row (e : Nat) (n : Node) (i : BId) (x : String) : BStep e n (n.setB i ((n.b i).set e x)) := by
  refine ⟨rfl, rfl, rfl, fun j k hk => ?_, fun j hj => ?_, fun hnd j => ?_, fun _ => rfl, setB_clear n i e x⟩
  -- each of `other`, `kept`, `nodup`: table `i` by what `BlockDb.set` does, any other table is untouched
  all_goals rw [setB_b]; split
  · rename_i hj; rw [hj, BlockDb.get_set, if_neg hk]
  · rfl
  · rw [BlockDb.get_set, if_pos rfl]; exact Option.some_ne_none x
  · exact hj
  · exact BlockDb.set_nodup (hnd i) e x
  · exact hnd j

theorem applyEvents_bstep {n n' : Node} {e : Nat} {evs : List Ev} (ha : applyEvents n e evs = some n') :
    BStep e n n' :=
  applyEvents_induction' (motive := BStep e n) (fun _ _ _ _ _ h _ ht => h.trans (.write ht))
    (fun m i _ x h _ _ => h.trans (.row e m i x)) ha (.refl e n)

/-! ## What recorded writes leave alone -/

theorem applyEvents_table_frame (i0 : TId) {n n' : Node} {e : Nat} {evs : List Ev} (ha : applyEvents n e evs = some n')
    {key : String} (hk : ∀ st k v, Ev.s i0.name st k v ∈ evs → k ≠ key) :
    (n'.t i0).latest key = (n.t i0).latest key :=
  applyEvents_table (i := i0) (motive := fun t => t.latest key = (n.t i0).latest key)
    (fun _ k v _ hm hmem ht => by rw [Table.latest_step_wop ht, if_neg fun x => hk e k v hmem x.symm]; exact hm) ha rfl

theorem applyEvents_noBlock_frame {n n' : Node} {e : Nat} {evs : List Ev} (hp : noBlockWrites evs = true)
    (ha : applyEvents n e evs = some n') : n'.b = n.b := by
  refine applyEvents_induction' (motive := fun m => m.b = n.b) (fun _ _ _ _ _ hm _ _ => hm)
    (fun m i k x _ hmem _ => ?_) ha rfl
  have : (BId.ofName i.name).isNone = true := List.all_eq_true.mp hp _ hmem
  rw [BId.ofName_eq_some.mpr rfl] at this
  cases this

theorem addTxs_block_frame (n : Node) (ts : Nat) (hash0 : String) (idx : Nat) (txid : Option String) (evs : List Ev)
    (k : Option Nat) :
    (n.addTxs ts hash0 idx txid evs k).1.b = n.b ∧ (n.addTxs ts hash0 idx txid evs k).1.latest = n.latest ∧
    (n.addTxs ts hash0 idx txid evs k).1.maxBlock = n.maxBlock := by
  by_cases hok : (n.addTxs ts hash0 idx txid evs k).2 = .ok
  · obtain ⟨_, n', a, hn⟩ := addTxs_accepted hok
    rw [hn]
    exact ⟨applyEvents_noBlock_frame (n' := n') a.noBlock a.applied, (applyEvents_fields a.applied).2⟩
  · rw [addTxs_fst_of_ne_ok hok]; exact ⟨rfl, rfl, rfl⟩

theorem addRawTx_block_frame (n : Node) (ts : Nat) (hash0 : String) (idx : Nat) (txid : String) (dec : RawDecode)
    (evs : List Ev) :
    (n.addRawTx ts hash0 idx txid dec evs).1.b = n.b ∧ (n.addRawTx ts hash0 idx txid dec evs).1.latest = n.latest ∧
    (n.addRawTx ts hash0 idx txid dec evs).1.maxBlock = n.maxBlock := by
  rcases addRawTx_cases n ts hash0 idx txid dec evs with e | ⟨_, _, _, _, _, _, hp, _, ha, _⟩ | ⟨_, k, _, _, e⟩
  · rw [e]; exact ⟨rfl, rfl, rfl⟩
  · exact ⟨applyEvents_pool_frame hp ha, (applyEvents_fields ha).2⟩
  · rw [e]; exact addTxs_block_frame n ts hash0 idx (some txid) evs k

/-! ## Calls that are not commit points write caches only -/

/-- `n'` and `n` have the same persistent columns (they differ at most in caches, heights and block info) -/
structure ClearEq (n n' : Node) : Prop where
  t : ∀ i, (n'.t i).clear = (n.t i).clear
  b : ∀ i, (n'.b i).clear = (n.b i).clear

theorem ClearEq.refl (n : Node) : ClearEq n n := ⟨fun _ => rfl, fun _ => rfl⟩

theorem ClearEq.trans {a b c : Node} (h1 : ClearEq a b) (h2 : ClearEq b c) : ClearEq a c :=
  ⟨fun i => (h2.t i).trans (h1.t i), fun i => (h2.b i).trans (h1.b i)⟩

theorem BStep.clearEq {e : Nat} {n n' : Node} (h : BStep e n n') : ClearEq n n' := ⟨h.tclear, h.bclear⟩

theorem Prim.clearEq {n n' : Node} {G G' : Ghost} (p : Prim n G n' G') : ClearEq n n' := by
  cases p with
  | tx a => exact ⟨(applyEvents_bstep a.applied).tclear, (applyEvents_bstep a.applied).bclear⟩
  | parked _ _ _ _ _ ha => exact (applyEvents_bstep ha).clearEq
  | fin f => exact ⟨(applyEvents_bstep f.applied).tclear, (applyEvents_bstep f.applied).bclear⟩
  | clear => exact ⟨fun _ => rfl, fun _ => rfl⟩

theorem Op.run_clearEq (op : Op) (n : Node) (hop : op.isCommitPoint = false) : ClearEq n (op.run n).1 :=
  (op.steps hop n Ghost.init).ind (I := fun m _ => ClearEq n m) (fun p h => h.trans p.clearEq) (.refl n)

theorem ClearEq.clear_eq {n n' : Node} (h : ClearEq n n') :
    (n'.clear).1 = { (n.clear).1 with maxBlock := n'.maxBlock } := by
  have ht : (fun i => (n'.t i).clear) = (fun i => (n.t i).clear) := funext h.t
  have hb : (fun i => (n'.b i).clear) = (fun i => (n.b i).clear) := funext h.b
  simp only [Node.clear, ht, hb]

theorem ClearEq.db {n n' : Node} (h : ClearEq n n') (i : TId) : (n'.t i).db = (n.t i).db := by
  have := congrArg Table.db (h.t i)
  exact this

/-! ## The log as of the last commit changes only at commit points -/

theorem _root_.Brc20.Ghost.events_d (G : Ghost) (evs : List Ev) : (G.events evs).d = G.d := by
  induction evs generalizing G with
  | nil => rfl
  | cons ev rest ih =>
    cases ev with
    | s tb st k v => exact (ih _).trans (by unfold Ghost.applyS; cases TId.ofName tb <;> rfl)
    | x kind fs okRun succ gas logs => exact ih G
    | other => exact ih G

theorem Prim.ghost_d {n n' : Node} {G G' : Ghost} (p : Prim n G n' G') : G'.d = G.d := by
  cases p with
  | clear => rfl
  | _ => exact G.events_d _

theorem Op.ghost_d (op : Op) (n : Node) (G : Ghost) (h : op.isCommitPoint = false) : (op.ghost n G).d = G.d :=
  (op.steps h n G).ind (I := fun _ G' => G'.d = G.d) (fun p h => p.ghost_d.trans h) rfl

theorem Op.ghost_d_commitPoint (op : Op) (n : Node) (G : Ghost) (h : op.isCommitPoint = true) :
    op.ghost n G = G ∨ (op.ghost n G).d = (op.ghost n G).s := by
  cases op with
  | commit =>
    show gCommit n G = G ∨ (gCommit n G).d = (gCommit n G).s
    unfold gCommit
    split
    · exact Or.inl rfl
    · exact Or.inr rfl
  | reorg target =>
    show gReorg n G target = G ∨ (gReorg n G target).d = (gReorg n G target).s
    unfold gReorg
    split
    · exact Or.inr rfl
    · exact Or.inl rfl
  | _ => cases h

/-! ## What `commit` and `reorg` do to the block tables -/

/-- `n'` is `n` at a commit point: no in-memory height, caches empty, the block tables those of `n` restricted to the
numbers `p` (all of them after `commit`, those up to the target after `reorg`). -/
structure CommitRows (p : Nat → Prop) (n n' : Node) : Prop where
  latest : n'.latest = none
  get : ∀ i k, (n'.b i).get k ≠ none ↔ p k ∧ (n.b i).get k ≠ none
  clear : ∀ i, (n'.b i).clear = n'.b i
  nodup : (∀ i, AMap.Nodup (n.b i).db ∧ AMap.Nodup (n.b i).cache) →
    ∀ i, AMap.Nodup (n'.b i).db ∧ AMap.Nodup (n'.b i).cache

theorem commitAll_commitRows (n : Node) : CommitRows (fun _ => True) n n.commitAll := by
  refine ⟨rfl, fun i k => ?_, fun _ => rfl, fun h i => BlockDb.commit_clear_nodup (h i).1⟩
  show (n.b i).commit.clear.get k ≠ none ↔ True ∧ (n.b i).get k ≠ none
  rw [BlockDb.get_commit_clear, true_and]

theorem reorg_commitRows {n : Node} {target : Nat} (hok : (n.reorg target).2 = .ok) :
    n.lbi.waiting = 0 ∧ CommitRows (· ≤ target) n (n.reorg target).1 := by
  obtain ⟨f, _, e⟩ := reorg_ok_eq hok
  refine ⟨(not_refused_iff.mp (reorg_ok n target hok).1).1, by rw [e], fun i k => ?_,
    fun i => by rw [e]; rfl, fun h i => by rw [e]; exact BlockDb.commit_clear_nodup (BlockDb.reorg_nodup _ _ (h i)).1⟩
  rw [reorg_get hok]
  split
  · rename_i hk; exact (and_iff_right hk).symm
  · rename_i hk; exact ⟨fun h => absurd rfl h, fun h => absurd h.1 hk⟩

/-- `Op.run_ind` (Proofs/Ops.lean) for what, at a commit point, depends on the block tables only -/
theorem Op.run_ind_rows {I : Node → Prop} (prim : ∀ {n n' : Node} {G G' : Ghost}, Prim n G n' G' → I n → I n')
    (rows : ∀ {p : Nat → Prop} {n n' : Node}, n.lbi.waiting = 0 → CommitRows p n n' → I n → I n')
    (op : Op) {n : Node} (h : I n) : I (op.run n).1 :=
  Op.run_ind prim (fun {n} hw h => rows hw (commitAll_commitRows n) h)
    (fun _ hok h => rows (reorg_commitRows hok).1 (reorg_commitRows hok).2 h) op h

/-! ## The block tables of every reachable node -/

/-- The block tables as the two heights see them (`H`: heights). On reachable nodes `rows_next` and `rows_bdry` also
follow from `BInv.rows_lt`. -/
structure HInv (n : Node) : Prop where
  nodup : ∀ i, AMap.Nodup (n.b i).db ∧ AMap.Nodup (n.b i).cache
  rows_next : ∀ k, (n.b .numberToHash).get k ≠ none → k ≤ n.nextHeight
  rows_bdry : n.lbi.waiting = 0 → ∀ k, (n.b .numberToHash).get k ≠ none → k < n.nextHeight
  tip : ∀ h x, n.latest = some (h, x) →
    (n.b .numberToHash).get h = some x ∧ (n.b .block).get h ≠ none ∧ (n.b .rawBlock).get h ≠ none

/-- Every row of a block table has a hash row of the same number (`S`: subset) - except, while a block is under
construction, a row of the number being built. The same for the persistent columns alone. On reachable nodes the
exception does not occur (`BInv.same`); `SInv` stands beside `BInv` because every call preserves it without `BInv`. -/
structure SInv (n : Node) : Prop where
  sub : ∀ i k, (n.b i).get k ≠ none →
    (n.b .numberToHash).get k ≠ none ∨ (k = n.nextHeight ∧ n.lbi.waiting ≠ 0)
  dsub : ∀ i k, (n.b i).clear.get k ≠ none → (n.b .numberToHash).clear.get k ≠ none

/-- The block tables of every reachable node, mid-block included (`B`: block tables): every hash row lies strictly
below the height being built; the three tables have rows for the same numbers. -/
structure BInv (n : Node) : Prop where
  rows_lt : ∀ k, (n.b .numberToHash).get k ≠ none → k < n.nextHeight
  same : ∀ i k, (n.b i).get k ≠ none ↔ (n.b .numberToHash).get k ≠ none
  dsame : ∀ i k, (n.b i).clear.get k ≠ none ↔ (n.b .numberToHash).clear.get k ≠ none

/-- with no in-memory height, the heights are read off the hash table: nothing to show but `nodup` -/
theorem HInv.of_latest_none {n : Node} (hnd : ∀ i, AMap.Nodup (n.b i).db ∧ AMap.Nodup (n.b i).cache)
    (hl : n.latest = none) : HInv n := by
  have hnx := nextHeight_of_latest_none hl
  refine ⟨hnd, ?_, ?_, ?_⟩
  · intro k hk; rw [hnx]; exact Nat.le_of_lt (BlockDb.lt_nextOf_of_get hk)
  · intro _ k hk; rw [hnx]; exact BlockDb.lt_nextOf_of_get hk
  · intro h x hx; rw [hl] at hx; cases hx

theorem HInv.init : HInv ({} : Node) :=
  HInv.of_latest_none (fun _ => ⟨List.nodup_nil, List.nodup_nil⟩) rfl

theorem SInv.init : SInv ({} : Node) :=
  ⟨fun _ _ h => absurd rfl h, fun _ _ h => absurd rfl h⟩

theorem BInv.init : BInv ({} : Node) :=
  ⟨fun _ h => absurd rfl h, fun _ _ => ⟨fun h => absurd rfl h, fun h => absurd rfl h⟩,
    fun _ _ => ⟨fun h => absurd rfl h, fun h => absurd rfl h⟩⟩

theorem HInv.congr {n n' : Node} (h : HInv n) (hb : n'.b = n.b) (hl : n'.latest = n.latest)
    (hw : n'.lbi.waiting = 0 → n.lbi.waiting = 0) : HInv n' := by
  have hnx := nextHeight_congr hb hl
  refine ⟨by rw [hb]; exact h.nodup, ?_, ?_, ?_⟩
  · rw [hb, hnx]; exact h.rows_next
  · intro hw'; rw [hb, hnx]; exact h.rows_bdry (hw hw')
  · rw [hb, hl]; exact h.tip

theorem SInv.congr {n n' : Node} (h : SInv n) (hb : n'.b = n.b) (hl : n'.latest = n.latest)
    (hw : n'.lbi.waiting = 0 → n.lbi.waiting = 0) : SInv n' := by
  have hnx := nextHeight_congr hb hl
  refine ⟨fun i k hk => ?_, by rw [hb]; exact h.dsub⟩
  rw [hb] at hk ⊢; rw [hnx]
  exact (h.sub i k hk).imp_right fun h1 => ⟨h1.1, fun hw' => h1.2 (hw hw')⟩

theorem BInv.congr {n n' : Node} (h : BInv n) (hb : n'.b = n.b) (hl : n'.latest = n.latest) : BInv n' := by
  have hnx := nextHeight_congr hb hl
  refine ⟨?_, ?_, ?_⟩
  · rw [hb, hnx]; exact h.rows_lt
  · rw [hb]; exact h.same
  · rw [hb]; exact h.dsame

theorem FinAccepted.rows {n n' : Node} {hash : String} {evs : List Ev} (f : FinAccepted n hash evs n') (i : BId) :
    (n'.b i).get n.nextHeight ≠ none := by
  cases i with
  | block => exact Option.isSome_iff_ne_none.mp f.blockRow
  | rawBlock => exact Option.isSome_iff_ne_none.mp f.rawRow
  | numberToHash => rw [f.hashRow]; exact Option.some_ne_none _

theorem HInv.fin {n n' : Node} (h : HInv n) {hash : String} {evs : List Ev} (f : FinAccepted n hash evs n') :
    HInv (finalised n' n.nextHeight hash) := by
  have hs := applyEvents_bstep f.applied
  have hrows : ∀ k, (n'.b .numberToHash).get k ≠ none → k ≤ n.nextHeight := fun k hk =>
    (hs.rows_inv .numberToHash hk).elim (h.rows_next k) Nat.le_of_eq
  refine ⟨hs.nodup h.nodup, ?_, ?_, ?_⟩
  · intro k hk; rw [finalised_nextHeight]; exact Nat.le_succ_of_le (hrows k hk)
  · intro _ k hk; rw [finalised_nextHeight]; exact Nat.lt_succ_of_le (hrows k hk)
  · intro a x hx
    cases hx
    exact ⟨f.hashRow, f.rows _, f.rows _⟩

theorem SInv.events {n n' : Node} (h : SInv n) {evs : List Ev} (ha : applyEvents n n.nextHeight evs = some n') :
    (∀ i k, (n'.b i).get k ≠ none → (n'.b .numberToHash).get k ≠ none ∨
      (k = n.nextHeight ∧ (n'.b .numberToHash).get n.nextHeight = none ∧ n'.nextHeight = n.nextHeight)) ∧
    (∀ i k, (n'.b i).clear.get k ≠ none → (n'.b .numberToHash).clear.get k ≠ none) := by
  have hs := applyEvents_bstep ha
  refine ⟨fun i k hk => ?_, fun i k => by rw [hs.bclear i, hs.bclear .numberToHash]; exact h.dsub i k⟩
  by_cases hrow : (n'.b .numberToHash).get k = none
  · -- a row without a hash row is a row of the height being built, which then has no hash row before either
    have hke : k = n.nextHeight := by
      rcases hs.rows_inv i hk with hk' | hke
      · exact ((h.sub i k hk').resolve_left fun h1 => hs.rows _ h1 hrow).1
      · exact hke
    subst hke
    refine Or.inr ⟨rfl, hrow, Nat.le_antisymm (nextHeight_mono hs.latest fun k hk => ?_) hs.nextHeight_le⟩
    exact (hs.rows_inv .numberToHash hk).resolve_right fun e => hk (e ▸ hrow)
  · exact Or.inl hrow

theorem SInv.fin {n n' : Node} (h : SInv n) {hash : String} {evs : List Ev} (f : FinAccepted n hash evs n') :
    SInv (finalised n' n.nextHeight hash) := by
  obtain ⟨h1, h2⟩ := h.events f.applied
  exact ⟨fun i k hk => Or.inl ((h1 i k hk).resolve_right fun h3 => f.rows _ h3.2.1), h2⟩

theorem BInv.fin {n n' : Node} (h : BInv n) {hash : String} {evs : List Ev} (f : FinAccepted n hash evs n') :
    BInv (finalised n' n.nextHeight hash) := by
  have hs := applyEvents_bstep f.applied
  refine ⟨fun k hk => ?_, fun i k => ?_, fun i k => ?_⟩
  · rw [finalised_nextHeight]
    exact (hs.rows_inv .numberToHash hk).elim (fun hk' => Nat.lt_succ_of_lt (h.rows_lt k hk'))
      fun e => e ▸ Nat.lt_succ_self _
  · show (n'.b i).get k ≠ none ↔ (n'.b .numberToHash).get k ≠ none
    by_cases hke : k = n.nextHeight
    · subst hke; exact ⟨fun _ => f.rows _, fun _ => f.rows _⟩
    · rw [hs.other i k hke, hs.other .numberToHash k hke]; exact h.same i k
  · show (n'.b i).clear.get k ≠ none ↔ (n'.b .numberToHash).clear.get k ≠ none
    rw [hs.bclear i, hs.bclear .numberToHash]; exact h.dsame i k

theorem HInv.clear {n : Node} (h : HInv n) : HInv (n.clear).1 :=
  HInv.of_latest_none (fun i => BlockDb.clear_nodup (h.nodup i).1) rfl

theorem SInv.clear {n : Node} (h : SInv n) : SInv (n.clear).1 :=
  ⟨fun i k hk => Or.inl (h.dsub i k hk), fun i k hk => h.dsub i k hk⟩

theorem BInv.clear {n : Node} (h : BInv n) : BInv (n.clear).1 :=
  ⟨fun k hk => by rw [clear_nextHeight]; exact BlockDb.lt_nextOf_of_get hk, h.dsame, h.dsame⟩

theorem Prim.block_inv {n n' : Node} {G G' : Ghost} (p : Prim n G n' G') :
    (HInv n → HInv n') ∧ (SInv n → SInv n') ∧ (BInv n → BInv n') := by
  cases p with
  | tx a =>
    have hb := applyEvents_noBlock_frame a.noBlock a.applied
    have hl := (applyEvents_fields a.applied).2.1
    exact ⟨fun h => h.congr hb hl fun hw => absurd hw (a.waiting_ne _),
      fun h => h.congr hb hl fun hw => absurd hw (a.waiting_ne _), fun h => h.congr hb hl⟩
  | parked _ _ _ hp _ ha =>
    obtain ⟨hlbi, hl, _⟩ := applyEvents_fields ha
    have hb := applyEvents_pool_frame hp ha
    have hw : n'.lbi.waiting = 0 → n.lbi.waiting = 0 := fun hw => hlbi ▸ hw
    exact ⟨fun h => h.congr hb hl hw, fun h => h.congr hb hl hw, fun h => h.congr hb hl⟩
  | fin f => exact ⟨fun h => h.fin f, fun h => h.fin f, fun h => h.fin f⟩
  | clear => exact ⟨HInv.clear, SInv.clear, BInv.clear⟩

theorem HInv.commitRows {p : Nat → Prop} {n n' : Node} (h : HInv n) (c : CommitRows p n n') : HInv n' :=
  HInv.of_latest_none (c.nodup h.nodup) c.latest

theorem SInv.commitRows {p : Nat → Prop} {n n' : Node} (h : SInv n) (hw : n.lbi.waiting = 0)
    (c : CommitRows p n n') : SInv n' := by
  have key : ∀ i k, (n'.b i).get k ≠ none → (n'.b .numberToHash).get k ≠ none := fun i k hk =>
    have ⟨hp, hk'⟩ := (c.get i k).mp hk
    (c.get _ k).mpr ⟨hp, (h.sub i k hk').resolve_right fun h1 => h1.2 hw⟩
  exact ⟨fun i k hk => Or.inl (key i k hk), fun i k => by rw [c.clear i, c.clear .numberToHash]; exact key i k⟩

theorem BInv.commitRows {p : Nat → Prop} {n n' : Node} (h : BInv n) (c : CommitRows p n n') : BInv n' := by
  have key : ∀ i k, (n'.b i).get k ≠ none ↔ (n'.b .numberToHash).get k ≠ none := fun i k => by
    rw [c.get i k, c.get .numberToHash k, h.same i k]
  refine ⟨fun k hk => ?_, key, fun i k => by rw [c.clear i, c.clear .numberToHash]; exact key i k⟩
  rw [nextHeight_of_latest_none c.latest]
  exact BlockDb.lt_nextOf_of_get hk

theorem HInv.step {n : Node} (h : HInv n) (op : Op) : HInv (op.run n).1 :=
  Op.run_ind_rows (fun p => p.block_inv.1) (fun _ c h => h.commitRows c) op h

theorem SInv.step {n : Node} (h : SInv n) (op : Op) : SInv (op.run n).1 :=
  Op.run_ind_rows (fun p => p.block_inv.2.1) (fun hw c h => h.commitRows hw c) op h

theorem BInv.step {n : Node} (h : BInv n) (op : Op) : BInv (op.run n).1 :=
  Op.run_ind_rows (fun p => p.block_inv.2.2) (fun _ c h => h.commitRows c) op h

theorem HInv.commit {n : Node} (h : HInv n) : HInv n.commit.1 := h.step .commit

theorem SInv.commit {n : Node} (h : SInv n) : SInv n.commit.1 := h.step .commit

theorem BInv.commit {n : Node} (h : BInv n) : BInv n.commit.1 := h.step .commit

theorem HInv.addRawTx {n : Node} (h : HInv n) (ts : Nat) (hash0 : String) (idx : Nat) (txid : String)
    (dec : RawDecode) (evs : List Ev) : HInv (n.addRawTx ts hash0 idx txid dec evs).1 :=
  h.step (.addRawTx ts hash0 idx txid dec evs)

theorem HInv.initialise {n : Node} (h : HInv n) (hash0 : String) (ts height : Nat) (evs : List Ev) :
    HInv (n.initialise hash0 ts height evs).1 :=
  h.step (.initialise hash0 ts height evs)

theorem SInv.addRawTx {n : Node} (h : SInv n) (ts : Nat) (hash0 : String) (idx : Nat) (txid : String)
    (dec : RawDecode) (evs : List Ev) : SInv (n.addRawTx ts hash0 idx txid dec evs).1 :=
  h.step (.addRawTx ts hash0 idx txid dec evs)

theorem SInv.initialise {n : Node} (h : SInv n) (hash0 : String) (ts height : Nat) (evs : List Ev) :
    SInv (n.initialise hash0 ts height evs).1 :=
  h.step (.initialise hash0 ts height evs)

theorem BInv.addRawTx {n : Node} (h : BInv n) (ts : Nat) (hash0 : String) (idx : Nat) (txid : String)
    (dec : RawDecode) (evs : List Ev) : BInv (n.addRawTx ts hash0 idx txid dec evs).1 :=
  h.step (.addRawTx ts hash0 idx txid dec evs)

theorem BInv.initialise {n : Node} (h : BInv n) (hash0 : String) (ts height : Nat) (evs : List Ev) :
    BInv (n.initialise hash0 ts height evs).1 :=
  h.step (.initialise hash0 ts height evs)

theorem Reach.hinv {n : Node} (h : Reach n) : HInv n := by
  induction h with
  | init => exact HInv.init
  | step op _ _ ih => exact ih.step op

theorem ReachG.hinv {n : Node} {G : Ghost} (h : ReachG n G) : HInv n := h.reach.hinv

theorem Reach.sinv {n : Node} (h : Reach n) : SInv n := by
  induction h with
  | init => exact SInv.init
  | step op _ _ ih => exact ih.step op

theorem Reach.binv {n : Node} (h : Reach n) : BInv n := by
  induction h with
  | init => exact BInv.init
  | step op _ _ ih => exact ih.step op

/-! ## Heights and rows of reachable nodes -/

theorem HInv.latest_is_last {n : Node} (h : HInv n) (hb : BInv n) (a : Nat) (x : String)
    (hx : n.latest = some (a, x)) : (n.b .numberToHash).lastKey = some a := by
  apply BlockDb.lastKey_of_get
  · rw [(h.tip a x hx).1]; exact Option.some_ne_none x
  · intro k hk
    apply Decidable.byContradiction
    intro hg
    have := hb.rows_lt k hg
    rw [nextHeight_eq, hx] at this
    simp only [] at this
    omega

theorem Reach.heightInv {n : Node} (h : Reach n) : HeightInv n :=
  ⟨h.hinv.latest_is_last h.binv, h.hinv.nodup⟩

theorem Reach.heights {n : Node} (h : Reach n) :
    n.latestHeight = ((n.b .numberToHash).lastKey).getD 0 ∧ n.nextHeight = nextOf (n.b .numberToHash).lastKey :=
  ⟨latestHeight_of_last h.heightInv.latest_is_last, nextHeight_of_last h.heightInv.latest_is_last⟩

theorem Reach.block_rows {n : Node} (h : Reach n) :
    (∀ i k, (n.b i).get k ≠ none ↔ k < n.nextHeight) ∧
    (∀ i k, (n.b i).clear.get k ≠ none ↔ k < n.durNext) := by
  obtain ⟨G, hG⟩ := h.inv
  have hb := h.binv
  refine ⟨fun i k => ?_, fun i k => ?_⟩
  · rw [hb.same i k]
    exact ⟨hb.rows_lt k, fun hk => BlockDb.get_of_lt_nextOf hG.core.contig
      (Nat.lt_of_lt_of_le hk (nextHeight_le_nextOf hG.core.latest_row))⟩
  · rw [hb.dsame i k]
    exact ⟨BlockDb.lt_nextOf_of_get, BlockDb.get_of_lt_nextOf hG.core.dcontig⟩

/-! ## The value column of a versioned table never binds a key twice -/

theorem step_db_nodup {n : Node} (h : ∀ i, AMap.Nodup (n.t i).db) (op : Op) :
    ∀ i, AMap.Nodup ((op.run n).1.t i).db := by
  refine Op.run_ind (I := fun n => ∀ i, AMap.Nodup (n.t i).db) (fun p h i => ?_) (fun {n} _ h => ?_)
    (fun {n} target hok h => ?_) op h
  · rw [p.clearEq.db i]; exact h i
  · exact fun i => (Table.nodup_step (W := W) (op := .commit n.nextHeight) rfl).1 (h i)
  · obtain ⟨f, hf, e⟩ := reorg_ok_eq hok
    rw [e]
    exact fun i => (Table.nodup_step (W := W) (op := .commit _) rfl).1
      ((Table.nodup_step (op := .reorg target) (hf i)).1 (h i))

theorem Reach.table_nodup {n : Node} (h : Reach n) : ∀ i, AMap.Nodup (n.t i).db ∧ AMap.Nodup (n.t i).cache := by
  have hdb : ∀ i, AMap.Nodup (n.t i).db := by
    induction h with
    | init => exact fun _ => List.nodup_nil
    | step op _ _ ih => exact step_db_nodup ih op
  obtain ⟨g, hs⟩ := h.sim
  exact fun i => ⟨hdb i, (hs.sim i).inv.cache_nodup⟩

/-! ## `mine` cannot fail half-way -/

theorem finOnly_hashIndex_key {hash : String} {evs : List Ev} (hf : finOnly hash evs = true) {st : Nat} {k : String}
    {v : Option String} (hm : Ev.s TId.hashToNumber.name st k v ∈ evs) : k = hash := by
  have := List.all_eq_true.mp hf _ hm
  simp only [show BId.ofName TId.hashToNumber.name = none by decide, Option.isSome_none, Bool.false_or,
    beq_self_eq_true, Bool.true_and, Bool.or_eq_true, beq_iff_eq] at this
  rcases this with h | h
  · exact h
  · exact absurd h (by decide)

/-- **Hash-index discipline of one `mine` call**: no recorded `block_hash_to_number` write of a block of the call is
keyed by the hash `mine` generates for a *later* block of the same call. (The engine's finalise of block `b` writes
exactly one such row, keyed by the hash of block `b`, and the model's `finaliseOne` refuses a row with any other key
(`finOnly`); so the discipline is only needed where generated hashes of different blocks might coincide, i.e. for
block numbers that do not fit in 32 bytes: `mineLoop_not_err_fit`.) Vacuous for `count ≤ 1`. -/
def MineHashDiscipline (n : Node) (count : Nat) (evs : List Ev) : Prop :=
  ∀ st k v j, Ev.s TId.hashToNumber.name st k v ∈ evs → n.nextHeight ≤ st → st < j → j < n.nextHeight + count →
    k ≠ generatedHash j

theorem mineHashDiscipline_of_own_hash {n : Node} {count : Nat} {evs : List Ev}
    (hown : ∀ st k v, Ev.s TId.hashToNumber.name st k v ∈ evs → k = generatedHash st)
    (hfit : n.nextHeight + count < 16 ^ 64) : MineHashDiscipline n count evs := by
  intro st k v j hm h1 h2 h3 he
  rw [hown st k v hm] at he
  have := generatedHash_inj (by omega) (by omega) he
  omega

theorem mineClash_false {n : Node} {count : Nat} (h : n.mineClash count = false) :
    ∀ j, n.nextHeight ≤ j → j < n.nextHeight + count → n.blockExists (generatedHash j) j = false := by
  intro j h1 h2
  unfold mineClash at h
  rw [List.any_eq_false] at h
  have := h (j - n.nextHeight) (List.mem_range.mpr (by omega))
  have e : n.nextHeight + (j - n.nextHeight) = j := by omega
  rw [e] at this
  simpa using this

/-- The loop may still stop on a panic or a model reject, which are not answers. An accepted finalise records
hash-index writes keyed by the generated hash of its own block only (`finOnly`); `hkey` asks that such a key is not
the generated hash of a later block of the call. -/
theorem mineLoop_not_err_of_own_keys {n : Node} (ts : Nat) (evs : List Ev) (c : Nat) (hw : n.lbi.waiting = 0)
    (hfree : ∀ j, n.nextHeight ≤ j → j < n.nextHeight + c → n.blockExists (generatedHash j) j = false)
    (hkey : ∀ st k v j, Ev.s TId.hashToNumber.name st k v ∈ evs → k = generatedHash st → n.nextHeight ≤ st →
      st < j → j < n.nextHeight + c → k ≠ generatedHash j)
    (e : String) : (mineLoop n ts evs c).2 ≠ .err e := by
  induction c generalizing n with
  | zero => exact nofun
  | succ c ih =>
    have hg := normHash_zero n.nextHeight
    rw [mineLoop_succ]
    split
    · rename_i hok
      obtain ⟨_, n', f, hn⟩ := finaliseOne_accepted hok
      have hfin := f.finOnly
      rw [hg] at hfin
      rw [hn]
      refine ih rfl (fun j h1 h2 => ?_) fun st k v j hm hk h1 h2 h3 => ?_
      · -- block `j` is still free: its hash row by `BStep.other`, its hash-index entry by `hkey`
        rw [finalised_nextHeight] at h1 h2
        have hb : (n'.b .numberToHash).get j = (n.b .numberToHash).get j :=
          (applyEvents_bstep f.applied).other _ j (by omega)
        have ht : (n'.t .hashToNumber).latest (generatedHash j) = (n.t .hashToNumber).latest (generatedHash j) := by
          refine applyEvents_table_frame .hashToNumber f.applied fun st k v hm => ?_
          have hk := finOnly_hashIndex_key hfin hm
          rw [List.mem_filter] at hm
          have hst : st = n.nextHeight := by simpa [stampOf] using hm.2
          exact hkey st k v j hm.1 (hst ▸ hk) (by omega) (by omega) (by omega)
        show (((n'.b .numberToHash).get j).isSome || ((n'.t .hashToNumber).latest (generatedHash j)).isSome) = false
        rw [hb, ht]
        exact hfree j (by omega) (by omega)
      · rw [finalised_nextHeight] at h1 h3
        exact hkey st k v j hm hk (by omega) h2 (by omega)
    · -- the protocol check of this finalise passes: nothing under construction, the block still unknown
      intro he
      have hv := (finaliseOne_err he).1
      rw [hg, validateNextTx_eq_none.mpr ⟨hw, fun h => absurd hw h, hfree _ (Nat.le_refl _) (by omega)⟩] at hv
      cases hv

theorem mineLoop_not_err {n : Node} (ts : Nat) (evs : List Ev) (c : Nat) (hw : n.lbi.waiting = 0)
    (hfree : ∀ j, n.nextHeight ≤ j → j < n.nextHeight + c → n.blockExists (generatedHash j) j = false)
    (hd : MineHashDiscipline n c evs) (e : String) : (mineLoop n ts evs c).2 ≠ .err e :=
  mineLoop_not_err_of_own_keys ts evs c hw hfree (fun st k v j hm _ => hd st k v j hm) e

/-- `16 ^ 64`: block numbers that fit in 32 bytes have different generated hashes (block numbers are `u64`) -/
theorem mineLoop_not_err_fit {n : Node} (ts : Nat) (evs : List Ev) (c : Nat) (hw : n.lbi.waiting = 0)
    (hfree : ∀ j, n.nextHeight ≤ j → j < n.nextHeight + c → n.blockExists (generatedHash j) j = false)
    (hfit : n.nextHeight + c < 16 ^ 64) (e : String) : (mineLoop n ts evs c).2 ≠ .err e := by
  refine mineLoop_not_err_of_own_keys ts evs c hw hfree (fun st k v j _ hk _ h2 h3 he => ?_) e
  rw [hk] at he
  have := generatedHash_inj (by omega) (by omega) he
  omega

theorem mine_err_noop_of_loop {n : Node} {count ts : Nat} {evs : List Ev}
    (hloop : n.lbi.waiting = 0 → n.mineClash count = false → ∀ e, (mineLoop n ts evs count).2 ≠ .err e)
    {e : String} (he : (n.mine count ts evs).2 = .err e) : (n.mine count ts evs).1 = n := by
  rcases mine_cases n count ts evs with h | h | ⟨hw, hc, h⟩
  · rw [h]
  · rw [h]
  · rw [h] at he; exact absurd he (hloop hw hc e)

theorem mine_err_noop {n : Node} {count ts : Nat} {evs : List Ev} (hd : MineHashDiscipline n count evs) {e : String}
    (he : (n.mine count ts evs).2 = .err e) : (n.mine count ts evs).1 = n :=
  mine_err_noop_of_loop (fun hw hc => mineLoop_not_err ts evs count hw (mineClash_false hc) hd) he

theorem mine_err_noop_fit {n : Node} {count ts : Nat} {evs : List Ev} (hfit : n.nextHeight + count < 16 ^ 64)
    {e : String} (he : (n.mine count ts evs).2 = .err e) : (n.mine count ts evs).1 = n :=
  mine_err_noop_of_loop (fun hw hc => mineLoop_not_err_fit ts evs count hw (mineClash_false hc) hfit) he

end Node
end Brc20
