/-
A process death in the middle of the engine commit (`Node.commitAll`) or of the engine rollback (`Node.reorg`),
composed from the per-table crash theorems (`Proofs/Crash.lean`) and the block-table lemmas (`Proofs/BlockDb.lean`).
The tables are independent, so dying at global write `j` leaves every table cut at its own index (`lose_take_parts`),
for any order in which every table is committed once.  Every crash, in the commit or in any phase of `reorg m`, leaves
a `Repairable` node: one on which the engine's `reorg n0` answers `ok` and restores `n0` (`Repairable.reorg_ok`).
`CrashExample` is a concrete node to which all of it applies; `CrashNecessity` shows that the side conditions `habove`
and `hb` cannot be dropped.
-/
import Brc20.Model.NodeCrash
import Brc20.Proofs.Crash
import Brc20.Proofs.NodeSim

namespace Brc20

/-! ## a prefix of a concatenation -/

theorem offsetIn_head {ι : Type} [DecidableEq ι] (len : ι → Nat) (k : ι) (rest : List ι) :
    offsetIn len (k :: rest) k = 0 := by simp [offsetIn]

theorem offsetIn_tail {ι : Type} [DecidableEq ι] {len : ι → Nat} {k : ι} {rest : List ι} {i : ι} (h : k ≠ i) :
    offsetIn len (k :: rest) i = len k + offsetIn len rest i := by simp [offsetIn, h]

theorem offsetIn_append {ι : Type} [DecidableEq ι] {len : ι → Nat} {l1 l2 : List ι} {i : ι} (hi : i ∉ l1) :
    offsetIn len (l1 ++ l2) i = (l1.map len).sum + offsetIn len l2 i := by
  induction l1 with
  | nil => simp
  | cons c l1 ih =>
    rw [List.mem_cons, not_or] at hi
    rw [List.cons_append, offsetIn_tail (Ne.symm hi.1), ih hi.2, List.map_cons, List.sum_cons, Nat.add_assoc]

theorem take_flatMap_parts {ι α : Type} [DecidableEq ι] (f : ι → List α) (l : List ι) (nd : l.Nodup) (j : Nat) :
    (l.flatMap f).take j = l.flatMap (fun k => (f k).take (j - offsetIn (fun k => (f k).length) l k)) := by
  induction l generalizing j with
  | nil => simp
  | cons k rest ih =>
    rw [List.nodup_cons] at nd
    simp only [List.flatMap_cons]
    rw [List.take_append, ih nd.2, offsetIn_head, Nat.sub_zero]
    congr 1
    rw [List.flatMap_def, List.flatMap_def, List.map_congr_left]
    intro x hx
    have hne : k ≠ x := fun e => nd.1 (e ▸ hx)
    rw [offsetIn_tail hne, Nat.sub_sub]

theorem filterMap_flatMap_tagged {ι α β : Type} [DecidableEq ι] (tag : ι → α → β) (sel : β → Option α) (i : ι)
    (hsel : ∀ k a, sel (tag k a) = if k = i then some a else none)
    (g : ι → List α) (l : List ι) (nd : l.Nodup) :
    (l.flatMap (fun k => (g k).map (tag k))).filterMap sel = if i ∈ l then g i else [] := by
  induction l with
  | nil => rfl
  | cons k rest ih =>
    rw [List.nodup_cons] at nd
    rw [List.flatMap_cons, List.filterMap_append, ih nd.2, List.filterMap_map]
    by_cases hk : k = i
    · subst hk
      have : sel ∘ tag k = some := funext fun a => by simp [hsel]
      simp [this, nd.1]
    · have : sel ∘ tag k = fun _ => none := funext fun a => by simp [hsel, hk]
      simp [this, Ne.symm hk]

theorem filterMap_flatMap_untagged {ι α β γ : Type} (tag : ι → α → β) (sel : β → Option γ)
    (hsel : ∀ k a, sel (tag k a) = none) (g : ι → List α) (l : List ι) :
    (l.flatMap (fun k => (g k).map (tag k))).filterMap sel = [] := by
  rw [List.filterMap_eq_nil_iff]
  intro b hb
  obtain ⟨k, _, hk⟩ := List.mem_flatMap.1 hb
  obtain ⟨a, _, rfl⟩ := List.mem_map.1 hk
  exact hsel k a

/-- a part that received a write is preceded by completed parts -/
theorem offsetIn_complete {ι : Type} [DecidableEq ι] (len : ι → Nat) (l1 l2 : List ι) (a b : ι) (j : Nat)
    (nd : (l1 ++ a :: l2).Nodup) (hb : b ∈ l2) (hpos : 0 < j - offsetIn len (l1 ++ a :: l2) b) :
    len a ≤ j - offsetIn len (l1 ++ a :: l2) a := by
  obtain ⟨_, nd2, hd⟩ := List.nodup_append.1 nd
  have hab : a ≠ b := fun e => (List.nodup_cons.1 nd2).1 (e ▸ hb)
  rw [offsetIn_append (fun h => hd b h b (List.mem_cons_of_mem _ hb) rfl), offsetIn_tail hab] at hpos
  rw [offsetIn_append (fun h => hd a h a List.mem_cons_self rfl), offsetIn_head]
  omega

theorem offsetIn_add_le {ι : Type} [DecidableEq ι] (len : ι → Nat) (l : List ι) (k : ι) (hk : k ∈ l) :
    offsetIn len l k + len k ≤ (l.map len).sum := by
  induction l with
  | nil => cases hk
  | cons c rest ih =>
    simp only [List.map_cons, List.sum_cons]
    by_cases hc : c = k
    · subst hc; rw [offsetIn_head]; omega
    · rw [offsetIn_tail hc]
      have := ih (by rcases List.mem_cons.mp hk with h | h; exact absurd h.symm hc; exact h)
      omega

def GWrite.tbl? (i : TId) : GWrite → Option (Write String String)
  | .tbl j w => if j = i then some w else none
  | .blk _ _ => none

def GWrite.blk? (i : BId) : GWrite → Option (BWrite String)
  | .blk j w => if j = i then some w else none
  | .tbl _ _ => none

namespace Node

/-! ## the tagged writes act table by table -/

theorem ext {a b : Node} (ht : ∀ i, a.t i = b.t i) (hb : ∀ i, a.b i = b.b i) (h1 : a.maxBlock = b.maxBlock)
    (h2 : a.latest = b.latest) (h3 : a.lbi = b.lbi) : a = b := by
  cases a; cases b
  simp only [Node.mk.injEq] at *
  exact ⟨funext ht, funext hb, h1, h2, h3⟩

theorem mem_commitOrderT (i : TId) : i ∈ commitOrderT := by cases i <;> decide
theorem mem_commitOrderB (i : BId) : i ∈ commitOrderB := by cases i <;> decide
theorem nodup_commitOrderT : commitOrderT.Nodup := by decide
theorem nodup_commitOrderB : commitOrderB.Nodup := by decide
theorem mem_allBIds (i : BId) : i ∈ allBIds := by cases i <;> decide
theorem nodup_allBIds : allBIds.Nodup := by decide
theorem mem_reorgOrderT (i : TId) : i ∈ reorgOrderT := by cases i <;> decide
theorem nodup_reorgOrderT : reorgOrderT.Nodup := by decide

/-- what a run of tagged writes leaves: field by field -/
structure Applied (n m : Node) (ft : TId → Table String String) (fb : BId → BlockDb String) : Prop where
  t : ∀ i, m.t i = ft i
  b : ∀ i, m.b i = fb i
  maxBlock : m.maxBlock = n.maxBlock
  latest : m.latest = n.latest
  lbi : m.lbi = n.lbi

theorem foldl_applyG (ws : List GWrite) (n : Node) :
    Applied n (ws.foldl applyG n) (fun i => (n.t i).applyWrites (ws.filterMap (GWrite.tbl? i)))
      (fun i => (n.b i).applyWrites (ws.filterMap (GWrite.blk? i))) := by
  induction ws generalizing n with
  | nil => exact ⟨fun _ => rfl, fun _ => rfl, rfl, rfl, rfl⟩
  | cons w ws ih =>
    have h := ih (applyG n w)
    cases w with
    | tbl j x =>
      refine ⟨fun i => (h.t i).trans ?_, h.b, h.maxBlock, h.latest, h.lbi⟩
      by_cases hj : j = i
      · subst hj
        simp only [applyG, setT, GWrite.tbl?, Table.applyWrites, List.filterMap_cons, List.foldl_cons, if_true]
      · simp only [applyG, setT, GWrite.tbl?, hj, Ne.symm hj, List.filterMap_cons, if_false]
    | blk j x =>
      refine ⟨h.t, fun i => (h.b i).trans ?_, h.maxBlock, h.latest, h.lbi⟩
      by_cases hj : j = i
      · subst hj
        simp only [applyG, setB, GWrite.blk?, BlockDb.applyWrites, List.filterMap_cons, List.foldl_cons, if_true]
      · simp only [applyG, setB, GWrite.blk?, hj, Ne.symm hj, List.filterMap_cons, if_false]

/-! ## dying at global write `j` = every table cut at its own index -/

/-- Block tables along `ob` issue their writes `fb k`, then versioned tables along `ot` issue `ft k`; the process dies
after `j` writes and the directory is reopened. -/
theorem lose_take_parts (fb : BId → List (BWrite String)) (ft : TId → List (Write String String))
    (ob : List BId) (ot : List TId) (ndb : ob.Nodup) (ndt : ot.Nodup) (hb : ∀ i, i ∈ ob) (ht : ∀ i, i ∈ ot)
    (n : Node) (j : Nat) :
    (((ob.flatMap (fun k => (fb k).map (GWrite.blk k)) ++ ot.flatMap (fun k => (ft k).map (GWrite.tbl k))).take
      j).foldl applyG n).lose =
    { n with
      t := fun i => ((n.t i).applyWrites ((ft i).take
        (j - (ob.flatMap (fun k => (fb k).map (GWrite.blk k))).length - offsetIn (fun k => (ft k).length) ot i))).clear,
      b := fun i => ((n.b i).applyWrites ((fb i).take (j - offsetIn (fun k => (fb k).length) ob i))).clear,
      latest := none, lbi := {} } := by
  rw [List.take_append, take_flatMap_parts _ _ ndb, take_flatMap_parts _ _ ndt]
  simp only [List.length_map, ← List.map_take]
  have h := foldl_applyG
    (ob.flatMap (fun k => ((fb k).take (j - offsetIn (fun k => (fb k).length) ob k)).map (GWrite.blk k)) ++
      ot.flatMap (fun k => ((ft k).take (j - (ob.flatMap (fun k => (fb k).map (GWrite.blk k))).length -
        offsetIn (fun k => (ft k).length) ot k)).map (GWrite.tbl k))) n
  simp only [List.filterMap_append,
    filterMap_flatMap_tagged GWrite.tbl (GWrite.tbl? _) _ (fun _ _ => rfl) _ ot ndt,
    filterMap_flatMap_tagged GWrite.blk (GWrite.blk? _) _ (fun _ _ => rfl) _ ob ndb,
    filterMap_flatMap_untagged GWrite.blk (GWrite.tbl? _) (fun _ _ => rfl),
    filterMap_flatMap_untagged GWrite.tbl (GWrite.blk? _) (fun _ _ => rfl),
    List.nil_append, List.append_nil, hb, ht, if_true] at h
  exact Node.ext (fun i => congrArg Table.clear (h.t i)) (fun i => congrArg BlockDb.clear (h.b i)) h.maxBlock rfl rfl

theorem crashCommitAtIn_eq_crashIdx (n : Node) (ob : List BId) (ot : List TId) (ndb : ob.Nodup) (ndt : ot.Nodup)
    (hb : ∀ i, i ∈ ob) (ht : ∀ i, i ∈ ot) (j : Nat) :
    n.crashCommitAtIn ob ot j = n.crashIdx (n.ibOfIn ob j) (n.itOfIn ob ot j) :=
  lose_take_parts n.bWrites n.tWrites ob ot ndb ndt hb ht n j

theorem crashCommitAt_eq_crashIdx (n : Node) (j : Nat) : n.crashCommitAt j = n.crashIdx (n.ibOf j) (n.itOf j) :=
  crashCommitAtIn_eq_crashIdx n commitOrderB commitOrderT nodup_commitOrderB nodup_commitOrderT
    mem_commitOrderB mem_commitOrderT j

theorem crashCommitAtIn_decl_eq_crashIdx (n : Node) (j : Nat) :
    n.crashCommitAtIn allBIds allTIds j = n.crashIdx (n.ibOfIn allBIds j) (n.itOfIn allBIds allTIds j) :=
  crashCommitAtIn_eq_crashIdx n allBIds allTIds nodup_allBIds nodup_allTIds mem_allBIds mem_allTIds j

theorem crashReorgAtIn_eq_crashReorgIdx (n : Node) (m : Nat) (ot : List TId) (ndt : ot.Nodup) (hot : ∀ i, i ∈ ot)
    (j : Nat) :
    n.crashReorgAtIn m ot j = n.crashReorgIdx m (n.itReorgIn m ot j) (fun i => (n.b i).db) := by
  have h := lose_take_parts (fun _ => []) (n.reorgWrites m) allBIds ot nodup_allBIds ndt mem_allBIds hot
    { n with t := n.reorgLoaded m } j
  simp only [List.take_nil] at h
  exact h

theorem crashReorgAt_eq_crashReorgIdx (n : Node) (m j : Nat) :
    n.crashReorgAt m j = n.crashReorgIdx m (n.itReorgIn m reorgOrderT j) (fun i => (n.b i).db) :=
  crashReorgAtIn_eq_crashReorgIdx n m reorgOrderT nodup_reorgOrderT mem_reorgOrderT j

theorem itOfIn_complete (n : Node) (ob : List BId) (l1 l2 : List TId) (a b : TId) (j : Nat)
    (nd : (l1 ++ a :: l2).Nodup) (hb : b ∈ l2) (hpos : 0 < n.itOfIn ob (l1 ++ a :: l2) j b) :
    (n.tWrites a).length ≤ n.itOfIn ob (l1 ++ a :: l2) j a :=
  offsetIn_complete _ l1 l2 a b _ nd hb hpos

theorem ibOfIn_complete (n : Node) (l1 l2 : List BId) (a b : BId) (j : Nat)
    (nd : (l1 ++ a :: l2).Nodup) (hb : b ∈ l2) (hpos : 0 < n.ibOfIn (l1 ++ a :: l2) j b) :
    (n.bWrites a).length ≤ n.ibOfIn (l1 ++ a :: l2) j a :=
  offsetIn_complete _ l1 l2 a b _ nd hb hpos

theorem ibOfIn_complete_of_table (n : Node) (ob : List BId) (ot : List TId) (j : Nat) (i : TId) (k : BId)
    (hk : k ∈ ob) (hpos : 0 < n.itOfIn ob ot j i) : (n.bWrites k).length ≤ n.ibOfIn ob j k := by
  unfold itOfIn at hpos
  unfold ibOfIn
  have h1 := offsetIn_add_le (fun k => (n.bWrites k).length) ob k hk
  have h2 : (n.blockPart ob).length = (ob.map (fun k => (n.bWrites k).length)).sum := by
    simp [blockPart, List.length_flatMap]
  omega

end Node

/-! ## a block table cut inside its commit -/

namespace BlockDb
variable {V : Type}

theorem applyWrites_rows (t : BlockDb V) (c : AMap Nat V) (ws : List (BWrite V))
    (hws : ∀ w ∈ ws, w = BWrite.flush ∨ ∃ p ∈ c, w = BWrite.put p.1 p.2) (k : Nat) :
    (t.applyWrites ws).db.get? k = t.db.get? k ∨ ∃ v, (k, v) ∈ c ∧ (t.applyWrites ws).db.get? k = some v := by
  induction ws generalizing t with
  | nil => exact Or.inl rfl
  | cons w ws ih =>
    have h := ih (t.applyWrite w) (fun x hx => hws x (List.mem_cons_of_mem _ hx))
    show ((t.applyWrite w).applyWrites ws).db.get? k = _ ∨ ∃ v, _ ∧ ((t.applyWrite w).applyWrites ws).db.get? k = _
    rcases hws w List.mem_cons_self with rfl | ⟨p, hp, rfl⟩
    · exact h
    · rcases h with h1 | h1
      · rw [h1]
        show (AMap.insert t.db p.1 p.2).get? k = _ ∨ ∃ v, _ ∧ (AMap.insert t.db p.1 p.2).get? k = _
        rw [AMap.get?_insert]
        by_cases hk : k = p.1
        · subst hk; exact Or.inr ⟨p.2, hp, if_pos rfl⟩
        · exact Or.inl (if_neg hk)
      · exact Or.inr h1

theorem get_crashCommit_cases (t : BlockDb V) (i k : Nat) :
    (t.crashCommit i).get k = t.db.get? k ∨ ∃ v, (k, v) ∈ t.cache ∧ (t.crashCommit i).get k = some v := by
  have h := applyWrites_rows t t.cache (t.commitWrites.take i) (fun w hw => by
    have := List.mem_of_mem_take hw
    simp only [commitWrites, List.mem_append, List.mem_map, List.mem_singleton] at this
    rcases this with ⟨p, hp, rfl⟩ | rfl
    · exact Or.inr ⟨p, (mem_sortedCache t p).mp hp, rfl⟩
    · exact Or.inl rfl) k
  unfold crashCommit
  rw [get_clear]
  exact h

theorem get_crashCommit_ne_none {t : BlockDb V} {i k : Nat} (h : (t.crashCommit i).get k ≠ none) : t.get k ≠ none := by
  unfold get
  cases hc : t.cache.get? k with
  | some _ => simp
  | none =>
    rcases get_crashCommit_cases t i k with e | ⟨v, hv, _⟩
    · rw [e] at h; exact h
    · exact absurd ((AMap.get?_eq_none_iff _ _).mp hc) (fun hn => hn (List.mem_map_of_mem (f := (·.1)) hv))

theorem get_crashCommit_below (t : BlockDb V) (i k target : Nat) (habove : ∀ p ∈ t.cache, target < p.1)
    (hk : k ≤ target) : (t.crashCommit i).get k = t.db.get? k := by
  rcases get_crashCommit_cases t i k with e | ⟨v, hv, _⟩
  · exact e
  · have := habove _ hv; omega

/-- `habove` holds in the engine: the durable target is at most the height of the last completed commit, and a commit
only adds rows above that height. -/
theorem get_crashCommit_reorg (t : BlockDb V) (i target k : Nat) (habove : ∀ p ∈ t.cache, target < p.1) :
    ((t.crashCommit i).reorg target).get k = if k ≤ target then t.db.get? k else none := by
  rw [get_reorg]
  by_cases hk : k ≤ target
  · rw [if_pos hk, if_pos hk]; exact get_crashCommit_below t i k target habove hk
  · rw [if_neg hk, if_neg hk]

theorem crashCommit_zero (t : BlockDb V) : t.crashCommit 0 = t.clear := rfl

theorem crashCommit_all (t : BlockDb V) (i : Nat) (hi : t.commitWrites.length ≤ i) :
    t.crashCommit i = t.commit.clear := by
  unfold crashCommit commit
  rw [List.take_of_length_le hi]

theorem get_commit_reorg (t : BlockDb V) (target k : Nat) (habove : ∀ p ∈ t.cache, target < p.1) :
    (t.commit.clear.reorg target).get k = if k ≤ target then t.db.get? k else none := by
  rw [← crashCommit_all t _ (Nat.le_refl _)]
  exact get_crashCommit_reorg t _ target k habove

theorem lastKey_crashCommit_reorg (t : BlockDb V) (i target : Nat) (habove : ∀ p ∈ t.cache, target < p.1)
    (hrow : t.db.get? target ≠ none) : ((t.crashCommit i).reorg target).lastKey = some target :=
  lastKey_of_get_le (fun k => get_crashCommit_reorg t i target k habove) hrow

end BlockDb

/-! ## the node restored at a height, and the height a reopened node reports -/

namespace Node

/-- `r` is the node restored at height `n0` after a crash on `n`: every versioned table reads what its
plain specification says for the end of block `n0`, every block table holds exactly the rows `≤ n0` that were
persisted before the commit began, nothing is under construction. -/
structure RestoredAt (n : Node) (g : TId → TSpec String String) (n0 : Nat) (r : Node) : Prop where
  tables : ∀ i k, (r.t i).latest k = (g i).readAt k n0
  blocks : ∀ i k, (r.b i).get k = if k ≤ n0 then (n.b i).db.get? k else none
  latest : r.latest = none
  lbi : r.lbi = {}
  maxBlock : r.maxBlock = n.maxBlock

theorem RestoredAt.heights {n : Node} {g : TId → TSpec String String} {n0 : Nat} {r : Node}
    (h : RestoredAt n g n0 r) (hrow : (n.b .numberToHash).db.get? n0 ≠ none) :
    r.latestHeight = n0 ∧ r.nextHeight = n0 + 1 := by
  have hl : (r.b .numberToHash).lastKey = some n0 := BlockDb.lastKey_of_get_le (h.blocks _) hrow
  rw [latestHeight_eq, nextHeight_eq, h.latest, hl]
  exact ⟨rfl, rfl⟩

theorem latestHeight_crashed {c : Node} (n0 bound : Nat) (hl : c.latest = none)
    (hget : (c.b .numberToHash).get n0 ≠ none)
    (hkeys : ∀ k, (c.b .numberToHash).get k ≠ none → k ≤ bound) :
    n0 ≤ c.latestHeight ∧ c.latestHeight ≤ bound := by
  obtain ⟨e, he, hle⟩ := BlockDb.get_ne_none_le_lastKey hget
  rw [latestHeight_eq, hl, he]
  exact ⟨hle, hkeys e (BlockDb.get_of_lastKey he)⟩

theorem get_le_latestHeight (n : Node)
    (hlat : ∀ h x, n.latest = some (h, x) → (n.b .numberToHash).lastKey = some h)
    (k : Nat) (hk : (n.b .numberToHash).get k ≠ none) : k ≤ n.latestHeight := by
  obtain ⟨e, he, hle⟩ := BlockDb.get_ne_none_le_lastKey hk
  rw [latestHeight_of_last hlat, he]
  exact hle

theorem reorg_accepts {c : Node} {n0 : Nat} (h0 : c.lbi = {}) (h1 : n0 ≤ c.latestHeight)
    (h2 : c.latestHeight ≤ n0 + W) (h3 : c.maxBlock.getD 0 ≤ W + n0) : c.reorg n0 = reorgBody c n0 :=
  reorg_of_not_refused c n0 (not_refused_iff.mpr ⟨by rw [h0], h1, h2, h3⟩)

/-! ## the composition: a reopened node whose every table its own rollback repairs -/

/-- What every crash leaves: `c` is a reopened node (no cache survives, nothing is under construction) each of
whose versioned tables is repaired by its own `reorg n0`, and each of whose block tables holds, at or below `n0`, the
rows of `n` persisted there. -/
structure Repairable (n : Node) (g : TId → TSpec String String) (n0 : Nat) (c : Node) : Prop where
  tables : ∀ i, ∃ t', (c.t i).reorg W n0 = some t' ∧ ∀ k, t'.latest k = (g i).readAt k n0
  blocks : ∀ i k, k ≤ n0 → (c.b i).get k = (n.b i).db.get? k
  latest : c.latest = none
  lbi : c.lbi = {}
  maxBlock : c.maxBlock = n.maxBlock

section
variable {n c : Node} {g : TId → TSpec String String} {n0 : Nat}

theorem Repairable.reorgBody (h : Repairable n g n0 c) : ∃ r, reorgBody c n0 = (r, .ok) ∧ RestoredAt n g n0 r := by
  obtain ⟨r, e, ht, hb, hl, hlbi, hm⟩ := reorgBody_post c n0 (fun i t' => ∀ k, t'.latest k = (g i).readAt k n0) h.tables
  refine ⟨r, e, ht, fun i k => ?_, hl, hlbi.trans h.lbi, hm.trans h.maxBlock⟩
  rw [hb]
  by_cases hk : k ≤ n0
  · simp only [hk, if_true]; exact h.blocks i k hk
  · simp only [hk, if_false]

theorem Repairable.reorg_ok (h : Repairable n g n0 c) (hrow : (n.b .numberToHash).db.get? n0 ≠ none)
    (hbound : ∀ k, (c.b .numberToHash).get k ≠ none → k ≤ n0 + W) (hmax : n.maxBlock.getD 0 ≤ W + n0) :
    ∃ r, c.reorg n0 = (r, .ok) ∧ RestoredAt n g n0 r ∧ r.latestHeight = n0 ∧ r.nextHeight = n0 + 1 := by
  obtain ⟨r, er, hr⟩ := h.reorgBody
  have hget : (c.b .numberToHash).get n0 ≠ none := by rw [h.blocks _ n0 (Nat.le_refl _)]; exact hrow
  obtain ⟨h1, h2⟩ := latestHeight_crashed n0 (n0 + W) h.latest hget hbound
  exact ⟨r, by rw [reorg_accepts h.lbi h1 h2 (by rw [h.maxBlock]; exact hmax), er], hr, hr.heights hrow⟩

theorem Repairable.congr {n' : Node} {g' : TId → TSpec String String} (h : Repairable n' g' n0 c)
    (hg : ∀ i k, (g' i).readAt k n0 = (g i).readAt k n0)
    (hb : ∀ i k, k ≤ n0 → (n'.b i).db.get? k = (n.b i).db.get? k) (hm : n'.maxBlock = n.maxBlock) :
    Repairable n g n0 c := by
  refine ⟨fun i => ?_, fun i k hk => (h.blocks i k hk).trans (hb i k hk), h.latest, h.lbi, h.maxBlock.trans hm⟩
  obtain ⟨t', e, ht⟩ := h.tables i
  exact ⟨t', e, fun k => (ht k).trans (hg i k)⟩

end

/-! ### every table cut at its own index inside the engine commit -/

/-- `it`, `ib`: the cut index of each versioned / block table.  The target `n0` is inside every table's window (`hw`),
not more than `W` below the height being committed (`hb`) and durable in every table (`hdur`); every block row of the
pending commit lies above `n0` (`habove`). -/
theorem crashIdx_repairable (n : Node) (g : TId → TSpec String String) (hs : NodeSim n g)
    (ib : BId → Nat) (it : TId → Nat) (n0 : Nat)
    (hw : ∀ i, (g i).maxEver ≤ n0 + W) (hb : n.nextHeight ≤ n0 + W + 1)
    (hdur : ∀ i k, ((g i).cur k).valAt n0 = ((g i).dur k).valAt n0)
    (habove : ∀ i, ∀ p ∈ (n.b i).cache, n0 < p.1) : Repairable n g n0 (n.crashIdx ib it) :=
  ⟨fun i => Table.crash_recoverable_of_sim (hs.sim i) n.nextHeight (it i) n0 (hw i) hb (hdur i),
    fun i k hk => BlockDb.get_crashCommit_below (n.b i) (ib i) k n0 (habove i) hk, rfl, rfl, rfl⟩

theorem crashIdx_reorg_ok (n : Node) (g : TId → TSpec String String) (hs : NodeSim n g)
    (ib : BId → Nat) (it : TId → Nat) (n0 : Nat)
    (hw : ∀ i, (g i).maxEver ≤ n0 + W) (hb : n.nextHeight ≤ n0 + W + 1)
    (hdur : ∀ i k, ((g i).cur k).valAt n0 = ((g i).dur k).valAt n0)
    (habove : ∀ i, ∀ p ∈ (n.b i).cache, n0 < p.1)
    (hrow : (n.b .numberToHash).db.get? n0 ≠ none)
    (hkeys : ∀ k, (n.b .numberToHash).get k ≠ none → k ≤ n0 + W) (hmax : n.maxBlock.getD 0 ≤ W + n0) :
    ∃ r, (n.crashIdx ib it).reorg n0 = (r, .ok) ∧ RestoredAt n g n0 r ∧
      r.latestHeight = n0 ∧ r.nextHeight = n0 + 1 :=
  (crashIdx_repairable n g hs ib it n0 hw hb hdur habove).reorg_ok hrow
    (fun k hk => hkeys k (BlockDb.get_crashCommit_ne_none hk)) hmax

/-- `hlat` is `HeightInv.latest_is_last`. -/
theorem depth_of_heights {n : Node} {n0 : Nat}
    (hlat : ∀ h x, n.latest = some (h, x) → (n.b .numberToHash).lastKey = some h)
    (hdeep : n.latestHeight ≤ n0 + W) :
    n.nextHeight ≤ n0 + W + 1 ∧ ∀ k, (n.b .numberToHash).get k ≠ none → k ≤ n0 + W :=
  ⟨by have := latestHeight_eq_pred n; omega, fun k hk => by have := get_le_latestHeight n hlat k hk; omega⟩

/-- `hinv` is an invariant of `finaliseOne`, which raises both heights together; with it the engine's own test on the
written-through `max_block_number` row (`hmax`) gives `hb` and `hkeys`. -/
theorem crashIdx_reorg_ok_of_max (n : Node) (g : TId → TSpec String String) (hs : NodeSim n g)
    (ib : BId → Nat) (it : TId → Nat) (n0 : Nat)
    (hw : ∀ i, (g i).maxEver ≤ n0 + W)
    (hdur : ∀ i k, ((g i).cur k).valAt n0 = ((g i).dur k).valAt n0)
    (habove : ∀ i, ∀ p ∈ (n.b i).cache, n0 < p.1)
    (hlat : ∀ h x, n.latest = some (h, x) → (n.b .numberToHash).lastKey = some h)
    (hrow : (n.b .numberToHash).db.get? n0 ≠ none)
    (hinv : n.latestHeight ≤ n.maxBlock.getD 0) (hmax : n.maxBlock.getD 0 ≤ W + n0) :
    ∃ r, (n.crashIdx ib it).reorg n0 = (r, .ok) ∧ RestoredAt n g n0 r ∧
      r.latestHeight = n0 ∧ r.nextHeight = n0 + 1 := by
  obtain ⟨hb, hkeys⟩ := depth_of_heights hlat (by omega : n.latestHeight ≤ n0 + W)
  exact crashIdx_reorg_ok n g hs ib it n0 hw hb hdur habove hrow hkeys hmax

/-! ### the engine's own write sequence -/

theorem crashCommitAt_recoverable (n : Node) (g : TId → TSpec String String) (hs : NodeSim n g) (j n0 : Nat)
    (hw : ∀ i, (g i).maxEver ≤ n0 + W) (hb : n.nextHeight ≤ n0 + W + 1)
    (hdur : ∀ i k, ((g i).cur k).valAt n0 = ((g i).dur k).valAt n0)
    (habove : ∀ i, ∀ p ∈ (n.b i).cache, n0 < p.1) :
    ∃ n1, reorgTables (n.crashCommitAt j) n0 allTIds = some n1 ∧
      (∀ i k, (n1.t i).latest k = (g i).readAt k n0) ∧
      (∀ i k, ((n1.b i).reorg n0).get k = if k ≤ n0 then (n.b i).db.get? k else none) ∧
      (∀ i k, ((n1.b i).reorg n0).get k = ((n.b i).commit.clear.reorg n0).get k) := by
  rw [crashCommitAt_eq_crashIdx]
  have h := crashIdx_repairable n g hs (n.ibOf j) (n.itOf j) n0 hw hb hdur habove
  obtain ⟨n1, e1, _, e3, e4, _⟩ :=
    reorgTables_post _ n0 (fun i t' => ∀ k, t'.latest k = (g i).readAt k n0) h.tables
  have hblk : ∀ i k, ((n1.b i).reorg n0).get k = if k ≤ n0 then (n.b i).db.get? k else none := fun i k => by
    rw [e4]; exact BlockDb.get_crashCommit_reorg (n.b i) _ n0 k (habove i)
  exact ⟨n1, e1, e3, hblk, fun i k => by rw [hblk, BlockDb.get_commit_reorg _ _ _ (habove i)]⟩

theorem crashCommitAt_reorgBody (n : Node) (g : TId → TSpec String String) (hs : NodeSim n g) (j n0 : Nat)
    (hw : ∀ i, (g i).maxEver ≤ n0 + W) (hb : n.nextHeight ≤ n0 + W + 1)
    (hdur : ∀ i k, ((g i).cur k).valAt n0 = ((g i).dur k).valAt n0)
    (habove : ∀ i, ∀ p ∈ (n.b i).cache, n0 < p.1) :
    ∃ r, reorgBody (n.crashCommitAt j) n0 = (r, .ok) ∧ RestoredAt n g n0 r := by
  rw [crashCommitAt_eq_crashIdx]
  exact (crashIdx_repairable n g hs _ _ n0 hw hb hdur habove).reorgBody

end Node

/-! ## a process death inside the engine rollback (`reorg m`), then a rollback to `n0 ≤ m` -/

namespace Node

/-- Some rows above `m` may be gone; nothing else has changed. -/
def PartlyDeleted (m : Nat) (old new : AMap Nat String) : Prop :=
  ∀ k, new.get? k = old.get? k ∨ (m < k ∧ new.get? k = none)

theorem partlyDeleted_refl (m : Nat) (c : AMap Nat String) : PartlyDeleted m c c := fun _ => Or.inl rfl

theorem partlyDeleted_reorg (t : BlockDb String) (m : Nat) : PartlyDeleted m t.db (t.reorg m).db :=
  BlockDb.db_get?_reorg t m

theorem get_crashReorgIdx (n : Node) (m : Nat) (it : TId → Nat) (u : BId → AMap Nat String) (i : BId) (k : Nat) :
    ((n.crashReorgIdx m it u).b i).get k = (u i).get? k := by
  show BlockDb.get { db := u i, cache := [] } k = _
  simp only [BlockDb.get, AMap.get?_nil]

/-- Crash inside the table phase or the block phase of `reorg m`.  Every versioned table is cut at its own index
inside the commit that ends its own `reorg m` (not started / cut / done), the block columns `u` have lost some of
their rows above `m` (none: table phase; some or all: block phase).  `hmW`: `m` was itself an admissible target; `m`
may lie above a table's own `maxEver` (a table nothing was written to lately). -/
theorem crashReorgIdx_repairable (n : Node) (g : TId → TSpec String String) (hs : NodeSim n g)
    (m : Nat) (it : TId → Nat) (u : BId → AMap Nat String) (n0 : Nat) (hnm : n0 ≤ m) (hmW : m ≤ n0 + W)
    (hw : ∀ i, (g i).maxEver ≤ n0 + W)
    (hdur : ∀ i k, ((g i).cur k).valAt n0 = ((g i).dur k).valAt n0)
    (hu : ∀ i, PartlyDeleted m (n.b i).db (u i)) : Repairable n g n0 (n.crashReorgIdx m it u) := by
  refine ⟨fun i => ?_, fun i k hk => ?_, rfl, rfl, rfl⟩
  · obtain ⟨tl, el, hr⟩ := Table.crash_in_reorg_recoverable_of_sim (hs.sim i) m n0 hnm (by omega) (hw i) (hdur i)
    have e : n.reorgLoaded m i = tl := by simp only [reorgLoaded, el, Option.getD_some]
    show ∃ t', ((n.reorgLoaded m i).crashCommit W m (it i)).reorg W n0 = some t' ∧ _
    rw [e]
    exact hr (it i)
  · rw [get_crashReorgIdx]
    rcases hu i k with h | ⟨h, _⟩
    · exact h
    · omega

theorem crashReorgIdx_reorg_ok (n : Node) (g : TId → TSpec String String) (hs : NodeSim n g)
    (m : Nat) (it : TId → Nat) (u : BId → AMap Nat String) (n0 : Nat) (hnm : n0 ≤ m) (hmW : m ≤ n0 + W)
    (hw : ∀ i, (g i).maxEver ≤ n0 + W)
    (hdur : ∀ i k, ((g i).cur k).valAt n0 = ((g i).dur k).valAt n0)
    (hu : ∀ i, PartlyDeleted m (n.b i).db (u i))
    (hrow : (n.b .numberToHash).db.get? n0 ≠ none)
    (hkeys : ∀ k, (n.b .numberToHash).db.get? k ≠ none → k ≤ n0 + W) (hmax : n.maxBlock.getD 0 ≤ W + n0) :
    ∃ r, (n.crashReorgIdx m it u).reorg n0 = (r, .ok) ∧ RestoredAt n g n0 r ∧
      r.latestHeight = n0 ∧ r.nextHeight = n0 + 1 := by
  refine (crashReorgIdx_repairable n g hs m it u n0 hnm hmW hw hdur hu).reorg_ok hrow (fun k hk => ?_) hmax
  rw [get_crashReorgIdx] at hk
  rcases hu .numberToHash k with h | ⟨_, h⟩
  · rw [h] at hk; exact hkeys k hk
  · exact absurd h hk

theorem readAt_step_reorg {t : Table String String} {s : TSpec String String} (h : Table.Sim W t s) (m n0 : Nat)
    (hnm : n0 ≤ m) (k : String) : (s.step (.reorg m)).readAt k n0 = s.readAt k n0 := by
  have e : (s.step (.reorg m)).cur k = (s.cur k).filter (fun e => decide (e.1 ≤ m)) := rfl
  unfold TSpec.readAt
  rw [e, Hist.valAt_cut (h.cur_ok k).1.sorted, Nat.min_eq_left hnm]

/-- Crash inside the commit that ends `reorg m`.  `n1` is the node after the table phase of an accepted `reorg m`,
`n2` the node after the block phase (`(n.reorg m).1 = n2.commitAll`: `Node.reorg_ok`, Proofs/NodeSim.lean).  `n2` is
in simulation with the logs cut at `m`, nothing is pending on it below `n0`, and it agrees with `n` on everything
`Repairable` speaks of (`Repairable.congr`). -/
theorem crash_in_reorg_commit_ok (n : Node) (g : TId → TSpec String String) (hs : NodeSim n g)
    (m n0 : Nat) (hnm : n0 ≤ m) (hmW : m ≤ n0 + W)
    (hw : ∀ i, (g i).maxEver ≤ n0 + W) (hb : n.nextHeight ≤ n0 + W + 1)
    (habove : ∀ i, ∀ p ∈ (n.b i).cache, n0 < p.1)
    (hrow : (n.b .numberToHash).db.get? n0 ≠ none)
    (hkeys : ∀ k, (n.b .numberToHash).get k ≠ none → k ≤ n0 + W) (hmax : n.maxBlock.getD 0 ≤ W + n0)
    (n1 : Node) (e1 : reorgTables n m allTIds = some n1) (ib : BId → Nat) (it : TId → Nat) :
    ∃ r, ((({ n1 with b := fun i => (n1.b i).reorg m } : Node)).crashIdx ib it).reorg n0 = (r, .ok) ∧
      RestoredAt n g n0 r ∧ r.latestHeight = n0 ∧ r.nextHeight = n0 + 1 := by
  obtain ⟨e2, eb, elat, _, emb⟩ := reorgTables_all_eq_some.mp e1
  -- `n2` is in simulation with the logs cut at `m`.  The counter is the one `Table.sim_reorg` states: `m` may lie above
  -- a table's `maxEver`, and the rollback ends in a `commit m`, which raises the counter to `m - 1`.
  have hsim : ∀ i, Table.Sim W (n1.t i)
      { (g i).step (.reorg m) with maxEver := max (g i).maxEver (m - 1) } := fun i => by
    obtain ⟨t', e, h'⟩ := Table.sim_reorg (hs.sim i) m (by have := hw i; omega)
    rw [e2 i, Option.some.injEq] at e
    rw [e]; exact h'
  let n2 : Node := { n1 with b := fun i => (n1.b i).reorg m }
  have hb2 : ∀ i, n2.b i = (n.b i).reorg m := fun i => by show (n1.b i).reorg m = _; rw [eb]
  have hget2 : ∀ k, (n2.b .numberToHash).get k ≠ none → (n.b .numberToHash).get k ≠ none := by
    intro k hk
    rw [hb2, BlockDb.get_reorg] at hk
    split at hk
    · exact hk
    · exact absurd rfl hk
  -- `hdur` of `n2` is `rfl`: `step (.reorg m)` sets `dur := cur`, nothing is pending after the table phase
  have h2 : Repairable n2 _ n0 (n2.crashIdx ib it) := crashIdx_repairable n2 _ ⟨hsim⟩ ib it n0
    (fun i => by have := hw i; show max (g i).maxEver (m - 1) ≤ n0 + W; omega)
    (Nat.le_trans (nextHeight_mono elat hget2) hb) (fun _ _ => rfl)
    (fun i p hp => habove i p (by rw [hb2] at hp; exact BlockDb.mem_cache_reorg _ _ _ hp))
  exact (h2.congr (n := n) (g := g) (fun i k => readAt_step_reorg (hs.sim i) m n0 hnm k)
    (fun i k hk => by rw [hb2, BlockDb.db_get?_reorg_le _ (by omega)]) emb).reorg_ok hrow
    (fun k hk => hkeys k (hget2 k (BlockDb.get_crashCommit_ne_none hk))) hmax

end Node

/-! ## non-vacuity: a concrete node, cut in the middle of the second table's writes

Block 1 was finalised and committed (`commit 2`), block 2 was finalised and is pending.  Two versioned tables hold
cached writes of block 2: `code` (key `a`: `x` → `y`) and `account` (key `p`: `q` → `r`, new key `s` = `t`); the
three block tables hold a cached row for block 2.  The engine commit issues 6 block-table writes, then 2 writes for
`code`, then 4 for `account` (`s` first: history row, value row; then `p`).  Dying at global write 10 leaves the
block tables and `code` at block 2, `account` with key `s` written and key `p` not, `hashToNumber` untouched. -/

namespace CrashExample
open Node

def opsCode : List (TOp String String) := [.set 1 "a" "x", .commit 2, .set 2 "a" "y"]
def opsAccount : List (TOp String String) := [.set 1 "p" "q", .commit 2, .set 2 "p" "r", .set 2 "s" "t"]

/-- the other ten tables saw nothing but the engine commit after block 1 -/
def ops : TId → List (TOp String String)
  | .code => opsCode
  | .account => opsAccount
  | _ => [.commit 2]

def g (i : TId) : TSpec String String := TSpec.init.run (ops i)

def tblCode : Table String String :=
  { db := [("a", "x")], cdb := [("a", [(0, none), (1, some "x")])],
    cache := [("a", [(0, none), (1, some "x"), (2, some "y")])] }

def tblAccount : Table String String :=
  { db := [("p", "q")], cdb := [("p", [(0, none), (1, some "q")])],
    cache := [("s", [(0, none), (2, some "t")]), ("p", [(0, none), (1, some "q"), (2, some "r")])] }

def tbl : TId → Table String String
  | .code => tblCode
  | .account => tblAccount
  | _ => {}

def node : Node :=
  { t := tbl,
    b := fun i => match i with
      | .block => { db := [(0, "b0"), (1, "b1")], cache := [(2, "b2")] }
      | .rawBlock => { db := [(0, "r0"), (1, "r1")], cache := [(2, "r2")] }
      | .numberToHash => { db := [(0, "h0"), (1, "h1")], cache := [(2, "h2")] },
    maxBlock := some 2,
    latest := some (2, "h2") }

theorem run_tbl (i : TId) : (Table.empty : Table String String).run Node.W (ops i) = some (tbl i) := by
  cases i <;> rfl

theorem legal_ops (i : TId) : TSpec.legalRun Node.W (TSpec.init : TSpec String String) (ops i) := by
  cases i <;> simp [ops, opsCode, opsAccount, TSpec.legalRun, TSpec.legal, TSpec.step, TSpec.init]

theorem nodeSim : NodeSim node g := by
  refine ⟨fun i => ?_⟩
  obtain ⟨t, e, hs⟩ := Table.run_sim (Table.sim_init Node.W) (ops i) (legal_ops i)
  rw [run_tbl i] at e
  cases e
  exact hs

theorem inWindow (i : TId) : (g i).maxEver ≤ 1 + Node.W := by cases i <;> decide

theorem durable (i : TId) (k : String) : ((g i).cur k).valAt 1 = ((g i).dur k).valAt 1 := by
  cases i
  case code =>
    by_cases hk : k = "a"
    · subst hk; decide
    · simp [g, ops, opsCode, TSpec.run, TSpec.step, TSpec.upd, hk]
  case account =>
    by_cases hp : k = "p"
    · subst hp; decide
    · by_cases hq : k = "s"
      · subst hq; decide
      · simp [g, ops, opsAccount, TSpec.run, TSpec.step, TSpec.upd, hp, hq]
  all_goals rfl

theorem rowsAbove (i : BId) : ∀ p ∈ (node.b i).cache, 1 < p.1 := by
  cases i <;> simp [node]

example : node.globalWrites.length = 12 := by decide

/-- where global write 10 falls: `code` complete (index ≥ 2), `account` cut at 2 of 4, `hashToNumber` untouched -/
example : node.itOf 10 .code = 4 ∧ (node.tWrites .code).length = 2 ∧
    node.itOf 10 .account = 2 ∧ (node.tWrites .account).length = 4 ∧
    node.itOf 10 .hashToNumber = 0 ∧ node.ibOf 10 .rawBlock = 6 := by decide

/-- the torn state on disk: `account` has the new key `s` of block 2, but still the block-1 value of `p` -/
example : (node.crashCommitAt 10).t .account =
    { db := [("s", "t"), ("p", "q")],
      cdb := [("s", [(0, none), (2, some "t")]), ("p", [(0, none), (1, some "q")])], cache := [] } := rfl

example : ((node.crashCommitAt 10).t .code).latest "a" = some "y" ∧
    ((node.crashCommitAt 10).t .account).latest "s" = some "t" ∧
    ((node.crashCommitAt 10).t .account).latest "p" = some "q" ∧
    (node.crashCommitAt 10).latestHeight = 2 := by decide

/-- **The theorem applies**, for every crash point `j` (in particular `j = 10`): the engine's `reorg 1` on the
reopened node answers `ok` and restores block 1. -/
theorem recovers (j : Nat) :
    ∃ r, (node.crashCommitAt j).reorg 1 = (r, .ok) ∧ RestoredAt node g 1 r ∧
      r.latestHeight = 1 ∧ r.nextHeight = 2 := by
  rw [crashCommitAt_eq_crashIdx]
  exact crashIdx_reorg_ok_of_max node g nodeSim _ _ 1 inWindow durable rowsAbove (by intro h x e; cases e; decide)
    (by decide) (by decide) (by decide)

/-- what "restored" means here: `a = x`, `p = q`, no `s`; block rows 0 and 1 only -/
example : (g .code).readAt "a" 1 = some "x" ∧ (g .account).readAt "p" 1 = some "q" ∧
    (g .account).readAt "s" 1 = none := by decide

/-- and by direct evaluation of the model, independently of the theorem -/
example : ((node.crashCommitAt 10).reorg 1).2 = .ok ∧
    (((node.crashCommitAt 10).reorg 1).1.t .account).latest "s" = none ∧
    (((node.crashCommitAt 10).reorg 1).1.t .account).latest "p" = some "q" ∧
    (((node.crashCommitAt 10).reorg 1).1.t .code).latest "a" = some "x" ∧
    (((node.crashCommitAt 10).reorg 1).1.b .numberToHash).get 2 = none ∧
    (((node.crashCommitAt 10).reorg 1).1.b .numberToHash).get 1 = some "h1" := by decide

/-! The same node, dying inside the engine's `reorg 2` (a rollback to its own height: every table rewrites its
rows of block 2): 2 writes for `code`, 4 for `account`, in the rollback's own table order (`code`, then `account`).
The ten other tables have `maxEver = 1 < 2`: the rollback target lies above their own counter, which is why the
theorems ask for `m ≤ n0 + W` instead of `m ≤ maxEver` table by table. -/

example : (node.reorgPart 2 reorgOrderT).length = 6 ∧ (g .tx).maxEver = 1 ∧ (g .account).maxEver = 2 := by decide

/-- cut after 3 writes: `code` is at block 2 on disk, `account` has the history row of `s` but not its value row -/
example : (node.crashReorgAt 2 3).t .account =
    { db := [("p", "q")],
      cdb := [("s", [(0, none), (2, some "t")]), ("p", [(0, none), (1, some "q")])], cache := [] } := rfl

theorem persistedRows (k : Nat) (hk : (node.b .numberToHash).db.get? k ≠ none) : k ≤ 1 + Node.W := by
  have hmem : k ∈ [0, 1] := Decidable.not_not.mp fun hn => hk ((AMap.get?_eq_none_iff _ k).mpr hn)
  simp only [List.mem_cons, List.not_mem_nil, or_false] at hmem
  omega

/-- for every crash point `j` of the table phase of `reorg 2`, `reorg 1` on the reopened node restores block 1 -/
theorem recovers_in_reorg (j : Nat) :
    ∃ r, (node.crashReorgAt 2 j).reorg 1 = (r, .ok) ∧ RestoredAt node g 1 r ∧
      r.latestHeight = 1 ∧ r.nextHeight = 2 := by
  rw [crashReorgAt_eq_crashReorgIdx]
  exact crashReorgIdx_reorg_ok node g nodeSim 2 _ _ 1 (by decide) (by decide) inWindow durable
    (fun _ => partlyDeleted_refl 2 _) (by decide) persistedRows (by decide)

example : ((node.crashReorgAt 2 3).reorg 1).2 = .ok ∧
    (((node.crashReorgAt 2 3).reorg 1).1.t .account).latest "s" = none ∧
    (((node.crashReorgAt 2 3).reorg 1).1.t .code).latest "a" = some "x" := by decide

end CrashExample

/-! ## the side conditions cannot be dropped -/

namespace CrashNecessity

/-- `habove` (every pending block row lies above the target): a pending row that REPLACES a persisted row at or
below the target is written or not depending on the cut index, so the rolled-back table is not determined by what
was persisted.  (The engine never produces such a row: `require_block_does_not_exist`.) -/
def bt : BlockDb String := { db := [(1, "a")], cache := [(1, "b")] }

example : ((bt.crashCommit 0).reorg 1).get 1 = some "a" ∧ ((bt.crashCommit 1).reorg 1).get 1 = some "b" := by
  decide

/-- `hb` / `hdeep` (the commit height is at most `W + 1` above the target): key 7 written in block 1, twelve blocks
finalised without a commit, commit at 13.  The history is old at 13 (`1 + 10 < 13`), so the commit writes the value
row and drops the history; whether the process dies between the two writes (index 1) or after both (index 2), a
rollback to 0 finds no history and key 7 keeps its block-1 value, although the target is inside the table's own
window and durable.  The engine refuses this rollback on its `max_block_number` test (12 > 10 + 0): `hmax`. -/
def tt : Table Nat Nat := { db := [], cdb := [], cache := [(7, [(0, none), (1, some 5)])] }
def ss : TSpec Nat Nat := TSpec.init.run [.set 1 7 5]

example : Table.empty.run 10 [.set 1 7 5] = some tt ∧ TSpec.legalRun 10 (TSpec.init : TSpec Nat Nat) [.set 1 7 5] :=
  ⟨rfl, by simp [TSpec.legalRun, TSpec.legal, TSpec.init]⟩

example : ss.maxEver ≤ 0 + 10 ∧ (ss.cur 7).valAt 0 = (ss.dur 7).valAt 0 ∧ ss.readAt 7 0 = none ∧
    ((tt.crashCommit 10 13 1).reorg 10 0).map (fun t => t.latest 7) = some (some 5) ∧
    ((tt.crashCommit 10 13 2).reorg 10 0).map (fun t => t.latest 7) = some (some 5) := by decide

end CrashNecessity
end Brc20
