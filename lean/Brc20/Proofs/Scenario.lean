/-
One concrete run of the engine model and a variant of it, evaluated once.

The non-vacuity examples of Proofs/ReachCrash.lean (quoted by Props/C04) and Props/C03, C05, C06 speak of the same six
calls (genesis with a deployment, a parked transaction, a block with a call, a mined block, commit), of a prefix of
them, of one more call after them (C05, which goes on from `finalNode`: `runOps_concat_fst`) or of the variant `opsC`.
The two runs are evaluated by the kernel in ONE theorem (`ops_eval`; `opsC_eval` is its second half), which identifies the nodes the
runs pass through with nodes written out as literals (`preNode`, `finalNode`, `stNode`); what the examples say about
those nodes is then read off the literals, and so is the rollback of `finalNode` to block 0 (`rolled_node`).  Node
equality is decidable table by table (`Node.eq_of_snap`); Props/C08 runs a node of its own through the same means.
-/
import Brc20.Proofs.NodeRun

namespace Brc20

deriving instance DecidableEq for Table, BlockDb

namespace Node

/-- the finitely many things a node consists of -/
def snap (n : Node) := (allTIds.map n.t, allBIds.map n.b, n.maxBlock, n.latest, n.lbi)

theorem eq_of_snap {n m : Node} (h : n.snap = m.snap) : n = m := by
  obtain ⟨t, b, _, _, _⟩ := n
  obtain ⟨t', b', _, _, _⟩ := m
  simp only [snap, allTIds, allBIds, List.map, Prod.mk.injEq, List.cons.injEq, and_true] at h
  obtain ⟨ht, hb, rfl, rfl, rfl⟩ := h
  have e1 : t = t' := by funext i; cases i <;> simp only [ht]
  have e2 : b = b' := by funext i; cases i <;> simp only [hb]
  rw [e1, e2]

instance : DecidableEq Node := fun n m => decidable_of_iff (n.snap = m.snap) ⟨eq_of_snap, congrArg snap⟩

instance (n : Node) (target : Nat) : Decidable (Refused n target) := by unfold Refused; infer_instance

theorem Reach.of_run {n m : Node} (op : Op) (hn : Reach n) (h : op.run n = (m, .ok)) : Reach m := by
  have := Reach.step op hn (by rw [h]; trivial)
  rwa [h] at this

namespace Example

def h0 : String := generatedHash 0
def h1 : String := generatedHash 1
def h2 : String := generatedHash 2
def addr0 : String := "0000000000000000000000000000000000000000"

/-- `account` rows (too short to hold a nonce field: the model reads nonce 0 from them) -/
def acct0 : String := "a0"
def acct1 : String := "a1"

/-- a parked transaction row as far as the model reads it: hash (32 bytes), nonce (8), block hash (32), then
`Some(1)`: parked in block 1 (so the finalises of blocks 1 and 2 keep it) -/
def parkedRow : String :=
  "0000000000000000000000000000000000000000000000000000000000000077" ++ "0000000000000001" ++
  "0000000000000000000000000000000000000000000000000000000000000002" ++ "01" ++ "0000000000000001"

/-- a signed transaction of sender `aa` with nonce 1 while the account nonce is 0: parked, two pool rows stamped
with the height being built -/
def evPark : List Ev :=
  [ .s "pending_tx_hash_to_tx_id" 1 "77" (some "cd"),
    .s "account_and_nonce_to_tx_hash" 1 "aa0000000000000001" (some parkedRow) ]

/-- genesis: the controller deployment (one run, one `code` row) and the finalise rows of block 0 -/
def evGenesis : List Ev :=
  [ .x "tx" [("number", "0"), ("ts", "100"), ("prevrandao", h0), ("basefee", "0"), ("gasprice", "0"), ("value", "0"),
             ("coinbase", addr0), ("txid", zeroHash), ("blockgaslimit", "18446744073709551615")] true true 21000 0,
    .s "code" 0 "c0de" (some "6001"),
    .s "account" 0 "aa" (some acct0),
    .s "block_number_to_block" 0 "0000000000000000" (some "b0"),
    .s "block_number_to_raw_block" 0 "0000000000000000" (some "r0"),
    .s "block_number_to_hash" 0 "0000000000000000" (some h0),
    .s "block_hash_to_number" 0 h0 (some (hexN 16 0)) ]

/-- block 1: an inscription call (one run, the account row rewritten) -/
def evCall : List Ev :=
  [ .x "tx" [("number", "1"), ("ts", "200"), ("prevrandao", h1), ("basefee", "0"), ("gasprice", "0"), ("value", "0"),
             ("coinbase", addr0), ("txid", "ab"), ("blockgaslimit", "18446744073709551615")] true true 30000 1,
    .s "account" 1 "aa" (some acct1),
    .s "tx" 1 "t1" (some "x") ]

def evFin1 : List Ev :=
  [ .s "block_number_to_block" 1 "0000000000000001" (some "b1"),
    .s "block_number_to_raw_block" 1 "0000000000000001" (some "r1"),
    .s "block_number_to_hash" 1 "0000000000000001" (some h1),
    .s "block_hash_to_number" 1 h1 (some (hexN 16 1)) ]

/-- block 2: mined empty -/
def evMine2 : List Ev :=
  [ .s "block_number_to_block" 2 "0000000000000002" (some "b2"),
    .s "block_number_to_raw_block" 2 "0000000000000002" (some "r2"),
    .s "block_number_to_hash" 2 "0000000000000002" (some h2),
    .s "block_hash_to_number" 2 h2 (some (hexN 16 2)) ]

def ops : List Op :=
  [ .initialise zeroHash 100 0 evGenesis,
    .addRawTx 150 zeroHash 0 "cd" (.ok "aa" 1) evPark,
    .addTxs 200 zeroHash 0 (some "ab") evCall (some 1),
    .finaliseOne 200 zeroHash 1 evFin1,
    .mine 1 300 evMine2,
    .commit ]

def runOps : List Op → Node × Ghost → Node × Ghost
  | [], p => p
  | op :: rest, p => runOps rest ((op.run p.1).1, op.ghost p.1 p.2)

def final : Node × Ghost := runOps ops ({}, Ghost.init)

/-- every call of the list is answered `ok` -/
def okRun : List Op → Node → Bool
  | [], _ => true
  | op :: rest, n => decide ((op.run n).2 = .ok) && okRun rest (op.run n).1

def noReorg : List Op → Bool
  | [] => true
  | .reorg _ :: _ => false
  | _ :: rest => noReorg rest

/-- Give `p` (by the expected type or `(p := ..)`): left to unification, the elaborator evaluates the run to find it. -/
theorem reachG_runOps (l : List Op) {p : Node × Ghost} (h : ReachG p.1 p.2) (hok : okRun l p.1 = true)
    (hnr : noReorg l = true) : ReachG (runOps l p).1 (runOps l p).2 := by
  induction l generalizing p with
  | nil => exact h
  | cons op rest ih =>
    simp only [okRun, Bool.and_eq_true, decide_eq_true_eq] at hok
    have hacc : (op.run p.1).2.accepted := by rw [hok.1]; trivial
    -- only a `reorg` has a side condition (`Op.inWindow`), and the list holds none
    cases op with
    | reorg target => cases hnr
    | _ => exact ih (ReachG.step _ h hacc trivial) hok.2 hnr

theorem okRun_take (k : Nat) {l : List Op} {n : Node} (h : okRun l n = true) : okRun (l.take k) n = true := by
  induction l generalizing n k with
  | nil => rw [List.take_nil]; exact h
  | cons op rest ih =>
    cases k with
    | zero => rfl
    | succ k =>
      simp only [List.take, okRun, Bool.and_eq_true] at h ⊢
      exact ⟨h.1, ih k h.2⟩

theorem runOps_append (l l' : List Op) (p : Node × Ghost) : runOps (l ++ l') p = runOps l' (runOps l p) := by
  induction l generalizing p with
  | nil => rfl
  | cons _ _ ih => exact ih _

theorem runOps_concat_fst (l : List Op) (op : Op) (p : Node × Ghost) :
    (runOps (l ++ [op]) p).1 = (op.run (runOps l p).1).1 := by
  rw [runOps_append]; rfl

/-- the node before the final `commit`: everything sits in the caches -/
def preNode : Node where
  t | .code => { cache := [("c0de", [(0, some "6001")])] }
    | .account => { cache := [("aa", [(0, some acct0), (1, some acct1)])] }
    | .tx => { cache := [("t1", [(0, none), (1, some "x")])] }
    | .pending => { cache := [("aa0000000000000001", [(0, none), (1, some parkedRow)])] }
    | .pendingTxid => { cache := [("77", [(0, none), (1, some "cd")])] }
    | .hashToNumber => { cache := [(h2, [(0, none), (2, some (hexN 16 2))]), (h1, [(0, none), (1, some (hexN 16 1))]),
                                   (h0, [(0, some (hexN 16 0))])] }
    | _ => {}
  b | .block => { cache := [(2, "b2"), (1, "b1"), (0, "b0")] }
    | .rawBlock => { cache := [(2, "r2"), (1, "r1"), (0, "r0")] }
    | .numberToHash => { cache := [(2, h2), (1, h1), (0, h0)] }
  maxBlock := some 2
  latest := some (2, h2)

/-- the node after it: value rows and histories in the columns, caches empty, no in-memory height -/
def finalNode : Node where
  t | .code => { db := [("c0de", "6001")], cdb := [("c0de", [(0, some "6001")])] }
    | .account => { db := [("aa", acct1)], cdb := [("aa", [(0, some acct0), (1, some acct1)])] }
    | .tx => { db := [("t1", "x")], cdb := [("t1", [(0, none), (1, some "x")])] }
    | .pending => { db := [("aa0000000000000001", parkedRow)],
                    cdb := [("aa0000000000000001", [(0, none), (1, some parkedRow)])] }
    | .pendingTxid => { db := [("77", "cd")], cdb := [("77", [(0, none), (1, some "cd")])] }
    | .hashToNumber => { db := [(h0, hexN 16 0), (h1, hexN 16 1), (h2, hexN 16 2)],
                         cdb := [(h0, [(0, some (hexN 16 0))]), (h1, [(0, none), (1, some (hexN 16 1))]),
                                 (h2, [(0, none), (2, some (hexN 16 2))])] }
    | _ => {}
  b | .block => { db := [(2, "b2"), (1, "b1"), (0, "b0")] }
    | .rawBlock => { db := [(2, "r2"), (1, "r1"), (0, "r0")] }
    | .numberToHash => { db := [(2, h2), (1, h1), (0, h0)] }
  maxBlock := some 2

end Example

end Node

/-! The same run with a `commit` right after the genesis: genesis (block 0, a deployment), `commit`, a parked
transaction (two pool rows stamped 1), block 1 with a call (`account` row rewritten, a `tx` row), its finalise, block 2
mined - nothing of blocks 1 and 2 committed.  The durable height is 1 (block 0 persisted), the node stands at 2. -/

namespace ReachCrashExample
open Node Node.Example

def opsC : List Op := ops.take 1 ++ [.commit] ++ (ops.drop 1).take 4

def st : Node × Ghost := runOps opsC ({}, Ghost.init)

/-- block 0 in the columns, blocks 1 and 2 in the caches -/
def stNode : Node where
  t | .code => { db := [("c0de", "6001")], cdb := [("c0de", [(0, some "6001")])] }
    | .account => { db := [("aa", acct0)], cdb := [("aa", [(0, some acct0)])],
                    cache := [("aa", [(0, some acct0), (1, some acct1)])] }
    | .tx => { cache := [("t1", [(0, none), (1, some "x")])] }
    | .pending => { cache := [("aa0000000000000001", [(0, none), (1, some parkedRow)])] }
    | .pendingTxid => { cache := [("77", [(0, none), (1, some "cd")])] }
    | .hashToNumber => { db := [(h0, hexN 16 0)], cdb := [(h0, [(0, some (hexN 16 0))])],
                         cache := [(h2, [(0, none), (2, some (hexN 16 2))]), (h1, [(0, none), (1, some (hexN 16 1))])] }
    | _ => {}
  b | .block => { db := [(0, "b0")], cache := [(2, "b2"), (1, "b1")] }
    | .rawBlock => { db := [(0, "r0")], cache := [(2, "r2"), (1, "r1")] }
    | .numberToHash => { db := [(0, h0)], cache := [(2, h2), (1, h1)] }
  maxBlock := some 2
  latest := some (2, h2)

end ReachCrashExample

namespace Node.Example

open ReachCrashExample in
/-- **Both runs, evaluated once.**  The facts are bundled because the kernel shares an evaluation inside one declaration
only, and one evaluation takes it seconds (the model works on hex strings, which the kernel compares byte by byte); the
two runs stand in one theorem because they have the dearest steps in common (the genesis, and reading the block number
out of the parked row). -/
theorem ops_eval :
    (okRun ops {} = true ∧ (runOps (ops.take 5) ({}, Ghost.init)).1 = preNode ∧ final.1 = finalNode ∧
      (∀ i, i ∈ poolTables → (final.2.s i).maxEver ≤ 2) ∧ (final.2.s .pending).maxEver = 2 ∧
      (((gReorg final.1 final.2 0).s .account).maxEver = 2 ∧ ((gReorg final.1 final.2 0).s .account).top = 0) ∧
      ((runOps (ops.take 2) ({}, Ghost.init)).1.lbi.waiting = 0 ∧
        (runOps (ops.take 2) ({}, Ghost.init)).1.latestHeight = 0 ∧ (runOps (ops.take 2) ({}, Ghost.init)).1.mb = 0 ∧
        ((runOps (ops.take 2) ({}, Ghost.init)).2.s .pending).maxEver = 1) ∧
      (runOps (ops.take 3) ({}, Ghost.init)).1.nextHeight = 1 ∧ (runOps (ops.take 3) ({}, Ghost.init)).1.lbi.waiting = 1) ∧
    okRun opsC {} = true ∧ st.1 = stNode ∧
      ((st.2.s .account).readAt "aa" 0 = some acct0 ∧ (st.2.s .tx).readAt "t1" 0 = none) ∧
      (st.2.s .account).readAt "aa" 1 = some acct1 := by
  decide +kernel

theorem ops_ok : okRun ops {} = true := ops_eval.1.1

theorem pre_node : (runOps (ops.take 5) ({}, Ghost.init)).1 = preNode := ops_eval.1.2.1

theorem final_node : final.1 = finalNode := ops_eval.1.2.2.1

theorem final_pool_le : ∀ i, i ∈ poolTables → (final.2.s i).maxEver ≤ 2 := ops_eval.1.2.2.2.1

theorem final_pending_maxEver : (final.2.s .pending).maxEver = 2 := ops_eval.1.2.2.2.2.1

theorem rolled_account :
    ((gReorg final.1 final.2 0).s .account).maxEver = 2 ∧ ((gReorg final.1 final.2 0).s .account).top = 0 :=
  ops_eval.1.2.2.2.2.2.1

/-- the shape of finding F10 is reachable: right after the parked submission (height 0, nothing under
construction) the pool tables have been passed block number 1, above the tip - the last hypothesis of
`ReachG.reorg_restores` is not redundant -/
example : (runOps (ops.take 2) ({}, Ghost.init)).1.lbi.waiting = 0 ∧
    (runOps (ops.take 2) ({}, Ghost.init)).1.latestHeight = 0 ∧ (runOps (ops.take 2) ({}, Ghost.init)).1.mb = 0 ∧
    ((runOps (ops.take 2) ({}, Ghost.init)).2.s .pending).maxEver = 1 := ops_eval.1.2.2.2.2.2.2.1

theorem three_calls :
    (runOps (ops.take 3) ({}, Ghost.init)).1.nextHeight = 1 ∧ (runOps (ops.take 3) ({}, Ghost.init)).1.lbi.waiting = 1 :=
  ops_eval.1.2.2.2.2.2.2.2

theorem final_reach : ReachG final.1 final.2 := reachG_runOps ops ReachG.init ops_ok (by decide)

theorem final_height : final.1.latestHeight = 2 ∧ final.1.mb = 2 ∧ final.1.lbi.waiting = 0 := by
  rw [final_node]; decide

theorem final_nextHeight : final.1.nextHeight = 3 := by rw [final_node]; decide

theorem final_not_refused : ¬ Refused final.1 0 := by rw [final_node]; decide

theorem final_pool : ∀ i, i ∈ poolTables → (final.2.s i).maxEver ≤ max final.1.latestHeight final.1.mb := by
  rw [final_height.1, final_height.2.1]; exact final_pool_le

/-- the node after the rollback of `finalNode` to block 0: the rows of blocks 1 and 2 are gone, and what is left of
their keys is a history saying "absent at block 0" -/
def rolledNode : Node where
  t | .code => { db := [("c0de", "6001")], cdb := [("c0de", [(0, some "6001")])] }
    | .account => { db := [("aa", acct0)], cdb := [("aa", [(0, some acct0)])] }
    | .tx => { cdb := [("t1", [(0, none)])] }
    | .pending => { cdb := [("aa0000000000000001", [(0, none)])] }
    | .pendingTxid => { cdb := [("77", [(0, none)])] }
    | .hashToNumber => { db := [(h0, hexN 16 0)],
                         cdb := [(h0, [(0, some (hexN 16 0))]), (h1, [(0, none)]), (h2, [(0, none)])] }
    | _ => {}
  b | .block => { db := [(0, "b0")] }
    | .rawBlock => { db := [(0, "r0")] }
    | .numberToHash => { db := [(0, h0)] }
  maxBlock := some 2

theorem rolled_node : finalNode.reorg 0 = (rolledNode, .ok) := by decide +kernel

/-- `ReachG.reorg_restores` applies to a concrete reachable node (genesis with a deployment, a parked transaction, one
block with a call, one mined block, commit), and the rollback to block 0 is not a no-op: the account row goes back
to its genesis value, the transaction row of block 1 and the parked transaction disappear -/
example : (final.1.reorg 0).2 = .ok ∧
    ∀ i k, ((final.1.reorg 0).1.t i).latest k = (final.2.s i).readAt k 0 :=
  final_reach.reorg_restores final_not_refused final_pool

example : (final.1.t .account).latest "aa" = some acct1 ∧ ((final.1.reorg 0).1.t .account).latest "aa" = some acct0 ∧
    (final.1.t .tx).latest "t1" = some "x" ∧ ((final.1.reorg 0).1.t .tx).latest "t1" = none ∧
    (final.1.t .pendingTxid).latest "77" = some "cd" ∧ ((final.1.reorg 0).1.t .pendingTxid).latest "77" = none ∧
    (final.2.s .pending).maxEver = 2 := by
  rw [final_pending_maxEver, final_node, rolled_node]; decide

theorem rolled_reach : ReachG (final.1.reorg 0).1 (gReorg final.1 final.2 0) :=
  ReachG.step (.reorg 0) final_reach
    (by show (final.1.reorg 0).2.accepted
        rw [final_node, rolled_node]; trivial)
    (fun _ i hi => Nat.le_trans (final_pool_le i hi) (by decide))

/-- **`maxEver ≤ nextHeight` and `maxEver ≤ latestHeight` are false on reachable nodes**: `maxEver` is the newest
block number *ever* passed to the table and a rollback does not lower it. After the rollback to block 0 above, at
a block boundary, the `account` table (not a pool table) has `maxEver = 2` while the height is 0 and the next block
is 1. (What does hold is `RInv.stamps`: `top ≤ latestHeight` and `maxEver ≤` highest block ever finalised.) -/
example : (final.1.reorg 0).1.lbi.waiting = 0 ∧ (final.1.reorg 0).1.latestHeight = 0 ∧
    (final.1.reorg 0).1.nextHeight = 1 ∧ (final.1.reorg 0).1.mb = 2 ∧
    ((gReorg final.1 final.2 0).s .account).maxEver = 2 ∧ ((gReorg final.1 final.2 0).s .account).top = 0 := by
  rw [rolled_account.1, rolled_account.2, final_node, rolled_node]; decide

end Node.Example

namespace ReachCrashExample
open Node Node.Example

theorem opsC_eval : okRun opsC {} = true ∧ st.1 = stNode ∧
    ((st.2.s .account).readAt "aa" 0 = some acct0 ∧ (st.2.s .tx).readAt "t1" 0 = none) ∧
    (st.2.s .account).readAt "aa" 1 = some acct1 := ops_eval.2

theorem st_node : st.1 = stNode := opsC_eval.2.1

theorem st_reach : ReachG st.1 st.2 := reachG_runOps opsC ReachG.init opsC_eval.1 (by decide)

theorem st_logs_at_0 : (st.2.s .account).readAt "aa" 0 = some acct0 ∧ (st.2.s .tx).readAt "t1" 0 = none :=
  opsC_eval.2.2.1

theorem st_log_at_1 : (st.2.s .account).readAt "aa" 1 = some acct1 := opsC_eval.2.2.2

end ReachCrashExample

end Brc20
