/-
Helper lemmas for `Brc20.Proofs.TableScan`: `AMap.get?` through `overlay`,
insertion sort by key, and uniqueness of a strictly sorted list with given members.
-/
import Brc20.Model.Table
import Brc20.Proofs.AMap
set_option linter.unusedSectionVars false

namespace Brc20.Table
variable {K V : Type} [DecidableEq K] [DecidableEq V]

theorem overlay_cons (base : AMap K V) (k : K) (h : Hist V) (rest : AMap K (Hist V)) :
    overlay base ((k, h) :: rest) =
      overlay (match h.latest with | some v => base.insert k v | none => base.erase k) rest := by
  rw [overlay]
  cases h.latest <;> rfl

theorem nodup_overlay (c : AMap K (Hist V)) (base : AMap K V) (nd : AMap.Nodup base) :
    AMap.Nodup (overlay base c) := by
  induction c generalizing base with
  | nil => exact nd
  | cons p rest ih =>
    obtain ⟨k, h⟩ := p
    rw [overlay_cons]
    cases h.latest with
    | none => exact ih _ (AMap.nodup_erase nd k)
    | some v => exact ih _ (AMap.nodup_insert nd k v)

theorem get?_overlay (c : AMap K (Hist V)) (nd : AMap.Nodup c) (base : AMap K V) (k : K) :
    AMap.get? (overlay base c) k =
      match c.get? k with
      | some h => h.latest
      | none => base.get? k := by
  induction c generalizing base with
  | nil => simp [overlay]
  | cons p rest ih =>
    obtain ⟨k0, h0⟩ := p
    obtain ⟨hk0, nd'⟩ := AMap.nodup_cons_iff.mp nd
    have hn : AMap.get? rest k0 = none := (AMap.get?_eq_none_iff rest k0).mpr hk0
    rw [overlay_cons, ih nd', AMap.get?_cons]
    by_cases hk : k0 = k
    · subst hk
      simp only [hn, if_true]
      cases h0.latest <;> simp [AMap.get?_erase, AMap.get?_insert]
    · have hk' : ¬ k = k0 := fun e => hk e.symm
      simp only [hk, if_false]
      cases AMap.get? rest k with
      | some h => rfl
      | none => cases h0.latest <;> simp [AMap.get?_erase, AMap.get?_insert, hk']

theorem mem_insertSorted (lt : K → K → Bool) (p x : K × V) (l : List (K × V)) :
    x ∈ insertSorted lt p l ↔ x = p ∨ x ∈ l := by
  induction l with
  | nil => simp [insertSorted]
  | cons q rest ih =>
    simp only [insertSorted]
    split
    · simp
    · rw [List.mem_cons, ih, List.mem_cons, or_left_comm]

theorem sortByKey_cons (lt : K → K → Bool) (p : K × V) (l : List (K × V)) :
    sortByKey lt (p :: l) = insertSorted lt p (sortByKey lt l) := rfl

theorem mem_sortByKey (lt : K → K → Bool) (x : K × V) (l : List (K × V)) :
    x ∈ sortByKey lt l ↔ x ∈ l := by
  induction l with
  | nil => simp [sortByKey]
  | cons p rest ih => rw [sortByKey_cons, mem_insertSorted, ih]; simp

theorem insertSorted_pairwise {lt : K → K → Bool}
    (tr : ∀ a b c, lt a b = true → lt b c = true → lt a c = true)
    (tot : ∀ a b, lt a b = true ∨ a = b ∨ lt b a = true)
    (p : K × V) (l : List (K × V))
    (hl : l.Pairwise (fun a b => lt a.1 b.1 = true)) (hp : ∀ q ∈ l, q.1 ≠ p.1) :
    (insertSorted lt p l).Pairwise (fun a b => lt a.1 b.1 = true) := by
  induction l with
  | nil => simp [insertSorted]
  | cons q rest ih =>
    obtain ⟨hq, hrest⟩ := List.pairwise_cons.mp hl
    simp only [insertSorted]
    split
    · rename_i hlt
      refine List.pairwise_cons.mpr ⟨?_, hl⟩
      intro x hx
      rcases List.mem_cons.mp hx with rfl | hx
      · exact hlt
      · exact tr _ _ _ hlt (hq x hx)
    · rename_i hlt
      refine List.pairwise_cons.mpr ⟨?_, ih hrest (fun x hx => hp x (List.mem_cons_of_mem _ hx))⟩
      intro x hx
      rcases (mem_insertSorted lt p x rest).mp hx with rfl | hx
      · rcases tot x.1 q.1 with h | h | h
        · exact absurd h hlt
        · exact absurd h.symm (hp q (List.mem_cons_self ..))
        · exact h
      · exact hq x hx

theorem sortByKey_pairwise {lt : K → K → Bool}
    (tr : ∀ a b c, lt a b = true → lt b c = true → lt a c = true)
    (tot : ∀ a b, lt a b = true ∨ a = b ∨ lt b a = true)
    (l : List (K × V)) (nd : AMap.Nodup l) :
    (sortByKey lt l).Pairwise (fun a b => lt a.1 b.1 = true) := by
  induction l with
  | nil => simp [sortByKey]
  | cons p rest ih =>
    obtain ⟨hp, nd'⟩ := AMap.nodup_cons_iff.mp nd
    rw [sortByKey_cons]
    refine insertSorted_pairwise tr tot p _ (ih nd') ?_
    intro q hq e
    apply hp
    rw [← e]
    exact List.mem_map_of_mem (f := (·.1)) ((mem_sortByKey lt q rest).mp hq)

end Brc20.Table

theorem Brc20.pairwise_ext {α : Type} {R : α → α → Prop} (irr : ∀ a, ¬ R a a)
    (tr : ∀ a b c, R a b → R b c → R a c) :
    ∀ (l₁ l₂ : List α), l₁.Pairwise R → l₂.Pairwise R → (∀ x, x ∈ l₁ ↔ x ∈ l₂) → l₁ = l₂ := by
  intro l₁ l₂ h1 h2 hm
  have nd : ∀ {l : List α}, l.Pairwise R → l.Nodup :=
    fun h => List.Pairwise.imp (S := (· ≠ ·)) (fun hab e => irr _ (e ▸ hab)) h
  exact List.Perm.eq_of_pairwise (fun a b _ _ hab hba => absurd (tr _ _ _ hab hba) (irr a)) h1 h2
    ((List.perm_ext_iff_of_nodup (nd h1) (nd h2)).mpr hm)
