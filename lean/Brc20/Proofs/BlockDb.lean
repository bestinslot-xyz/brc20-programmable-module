/-
Block-keyed table (`BlockDb`): point reads, `lastKey` and gap-freeness (`Contig`) after `set`, `commit`, `clear`,
`reorg`.  `lastKey` is characterised as the greatest readable key (`lastKey_spec`); most statements use it through
`nextOf t.lastKey`, the number after the newest row.
No duplicate-freeness of the two association lists is assumed: a `commit` writes the cached rows in ascending
key order, rows with equal keys in reverse list order, so the first binding of the cache list (the one `get?`
sees) is the last one written.  That `commit` and `reorg` keep the lists duplicate-free is shown beside it
(`commit_nodup`, `reorg_nodup`): it is part of the invariant of reachable nodes (`Node.HInv`).
-/
import Brc20.Model.BlockDb
import Brc20.Proofs.AMap
set_option linter.unusedSectionVars false

namespace Brc20.BlockDb
variable {V : Type}

/-! ## greatest key -/

/-- `o` is the greatest number satisfying `P` (`none`: nothing satisfies `P`). -/
def IsMaxOf (P : Nat → Prop) : Option Nat → Prop
  | none => ∀ k, ¬ P k
  | some a => P a ∧ ∀ k, P k → k ≤ a

theorem IsMaxOf.unique {P : Nat → Prop} {o1 o2 : Option Nat} (h1 : IsMaxOf P o1) (h2 : IsMaxOf P o2) : o1 = o2 :=
  match o1, o2, h1, h2 with
  | none, none, _, _ => rfl
  | none, some b, h1, h2 => absurd h2.1 (h1 b)
  | some a, none, h1, h2 => absurd h1.1 (h2 a)
  | some a, some b, h1, h2 => congrArg some (Nat.le_antisymm (h2.2 a h1.1) (h1.2 b h2.1))

theorem IsMaxOf.congr {P Q : Nat → Prop} {o : Option Nat} (h : IsMaxOf P o) (e : ∀ k, P k ↔ Q k) : IsMaxOf Q o := by
  cases o with
  | none => exact fun k hq => h k ((e k).mpr hq)
  | some a => exact ⟨(e a).mp h.1, fun k hq => h.2 k ((e k).mpr hq)⟩

theorem isMaxOf_optMax {P Q : Nat → Prop} {a b : Option Nat} (ha : IsMaxOf P a) (hb : IsMaxOf Q b) :
    IsMaxOf (fun k => P k ∨ Q k) (optMax a b) :=
  match a, b, ha, hb with
  | none, none, ha, hb => fun k hk => hk.elim (ha k) (hb k)
  | none, some _, ha, hb => ⟨Or.inr hb.1, fun k hk => hk.elim (fun h => absurd h (ha k)) (hb.2 k)⟩
  | some _, none, ha, hb => ⟨Or.inl ha.1, fun k hk => hk.elim (ha.2 k) (fun h => absurd h (hb k))⟩
  | some x, some y, ha, hb => by
    show IsMaxOf _ (some (max x y))
    refine ⟨?_, fun k hk => ?_⟩
    · by_cases h : x ≤ y
      · rw [Nat.max_eq_right h]; exact Or.inr hb.1
      · rw [Nat.max_eq_left (by omega)]; exact Or.inl ha.1
    · rcases hk with hk | hk
      · have := ha.2 k hk; omega
      · have := hb.2 k hk; omega

def maxStep (acc : Option Nat) (p : Nat × V) : Option Nat :=
  match acc with | none => some p.1 | some a => some (max a p.1)

theorem maxKey?_eq (m : AMap Nat V) : maxKey? m = m.foldl maxStep none := rfl

theorem foldl_maxStep_spec (m : AMap Nat V) (acc : Option Nat) (P : Nat → Prop) (h : IsMaxOf P acc) :
    IsMaxOf (fun k => P k ∨ k ∈ AMap.keys m) (m.foldl maxStep acc) := by
  induction m generalizing acc P with
  | nil => exact h.congr fun k => by simp [AMap.keys]
  | cons p rest ih =>
    have hp : IsMaxOf (fun k => k = p.1) (some p.1) := ⟨rfl, fun k hk => Nat.le_of_eq hk⟩
    have h1 : IsMaxOf (fun k => P k ∨ k = p.1) (maxStep acc p) := by
      rw [show maxStep acc p = optMax acc (some p.1) by cases acc <;> rfl]
      exact isMaxOf_optMax h hp
    exact (ih _ _ h1).congr fun k => by simp only [AMap.keys, List.map_cons, List.mem_cons, or_assoc]

theorem maxKey?_spec (m : AMap Nat V) : IsMaxOf (fun k => AMap.get? m k ≠ none) (maxKey? m) := by
  have h0 : IsMaxOf (fun _ => False) (none : Option Nat) := fun _ h => h
  rw [maxKey?_eq]
  refine (foldl_maxStep_spec m none _ h0).congr ?_
  intro k
  simp only [false_or, ne_eq, AMap.get?_eq_none_iff, Decidable.not_not]

theorem lastKey_spec (t : BlockDb V) : IsMaxOf (fun k => t.get k ≠ none) t.lastKey := by
  refine (isMaxOf_optMax (maxKey?_spec t.db) (maxKey?_spec t.cache)).congr ?_
  intro k
  simp only [get]
  cases hc : t.cache.get? k <;> simp

theorem lastKey_congr (t u : BlockDb V) (h : ∀ k, t.get k = none ↔ u.get k = none) : t.lastKey = u.lastKey :=
  IsMaxOf.unique ((lastKey_spec t).congr (fun k => not_congr (h k))) (lastKey_spec u)

theorem get_ne_none_le_lastKey {t : BlockDb V} {k : Nat} (h : t.get k ≠ none) : ∃ e, t.lastKey = some e ∧ k ≤ e := by
  have hs := lastKey_spec t
  cases hl : t.lastKey with
  | none => rw [hl] at hs; exact absurd h (hs k)
  | some e => rw [hl] at hs; exact ⟨e, rfl, hs.2 k h⟩

theorem get_of_lastKey {t : BlockDb V} {e : Nat} (h : t.lastKey = some e) : t.get e ≠ none := by
  have hs := lastKey_spec t
  rw [h] at hs
  exact hs.1

theorem get_eq_none_of_lastKey_none {t : BlockDb V} (h : t.lastKey = none) (k : Nat) : t.get k = none :=
  Decidable.byContradiction fun hk => by
    obtain ⟨e, he, _⟩ := get_ne_none_le_lastKey hk
    rw [h] at he; cases he

theorem get_eq_none_of_lastKey_lt {t : BlockDb V} {e : Nat} (h : t.lastKey = some e) {k : Nat} (hk : e < k) :
    t.get k = none :=
  Decidable.byContradiction fun hne => by
    obtain ⟨e', he', hle⟩ := get_ne_none_le_lastKey hne
    rw [h] at he'; cases he'; omega

theorem lastKey_of_get {t : BlockDb V} {n : Nat} (hex : t.get n ≠ none) (hab : ∀ k, n < k → t.get k = none) :
    t.lastKey = some n := by
  refine IsMaxOf.unique (lastKey_spec t) ⟨hex, ?_⟩
  intro k hk
  apply Decidable.byContradiction
  intro hlt
  exact hk (hab k (by omega))

/-- the number after the newest row (`0` for an empty table) -/
def nextOf : Option Nat → Nat
  | some k => k + 1
  | none => 0

theorem lt_nextOf_of_get {t : BlockDb V} {k : Nat} (h : t.get k ≠ none) : k < nextOf t.lastKey := by
  obtain ⟨e, he, hk⟩ := get_ne_none_le_lastKey h
  rw [he]; simp only [nextOf]; omega

theorem nextOf_lastKey_mono {t u : BlockDb V} (h : ∀ k, t.get k ≠ none → u.get k ≠ none) :
    nextOf t.lastKey ≤ nextOf u.lastKey := by
  cases hl : t.lastKey with
  | none => exact Nat.zero_le _
  | some a => exact lt_nextOf_of_get (h a (get_of_lastKey hl))

theorem lastKey_of_get_le {t : BlockDb V} {n : Nat} {f : Nat → Option V}
    (h : ∀ k, t.get k = if k ≤ n then f k else none) (hn : f n ≠ none) : t.lastKey = some n := by
  apply lastKey_of_get
  · rw [h, if_pos (Nat.le_refl _)]; exact hn
  · intro k hk
    rw [h, if_neg (by omega)]

/-! ## reads: `clear`, `set` -/

theorem get_eq_none_iff {t : BlockDb V} {k : Nat} : t.get k = none ↔ t.cache.get? k = none ∧ t.db.get? k = none := by
  unfold get
  cases t.cache.get? k <;> simp

@[simp] theorem get_clear (t : BlockDb V) (k : Nat) : t.clear.get k = t.db.get? k := by
  simp [get, clear]

theorem get_ne_none_of_db {t : BlockDb V} {k : Nat} (h : t.db.get? k ≠ none) : t.get k ≠ none :=
  fun e => h (get_eq_none_iff.mp e).2

theorem nextOf_clear_le (t : BlockDb V) : nextOf t.clear.lastKey ≤ nextOf t.lastKey :=
  nextOf_lastKey_mono (fun k h => get_ne_none_of_db (get_clear t k ▸ h))

theorem get_set (t : BlockDb V) (n : Nat) (v : V) (k : Nat) :
    (t.set n v).get k = if k = n then some v else t.get k := by
  simp only [get, set, AMap.get?_insert]
  by_cases h : k = n <;> simp [h]

theorem clear_set (t : BlockDb V) (n : Nat) (v : V) : (t.set n v).clear = t.clear := rfl

theorem clear_clear (t : BlockDb V) : t.clear.clear = t.clear := rfl

theorem mem_cache_set {t : BlockDb V} {n : Nat} {v : V} {p : Nat × V} (h : p ∈ (t.set n v).cache) :
    p.1 = n ∨ p ∈ t.cache := by
  simp only [set, AMap.insert, List.mem_cons] at h
  rcases h with rfl | h
  · exact Or.inl rfl
  · unfold AMap.erase at h
    exact Or.inr (List.mem_filter.mp h).1

/-! ## `commit` -/

/-- last binding of `k` in a list of rows -/
def getL? : List (Nat × V) → Nat → Option V
  | [], _ => none
  | p :: rest, k =>
    match getL? rest k with
    | some v => some v
    | none => if p.1 = k then some p.2 else none

theorem getL?_none_of_lt (l : List (Nat × V)) (k : Nat) (h : ∀ q ∈ l, k < q.1) : getL? l k = none := by
  induction l with
  | nil => rfl
  | cons q rest ih =>
    have h1 := h q (List.mem_cons_self)
    have h2 := ih (fun x hx => h x (List.mem_cons_of_mem _ hx))
    have : ¬ q.1 = k := by omega
    simp [getL?, h2, this]

theorem foldl_put_get? (l : List (Nat × V)) (m : AMap Nat V) (k : Nat) :
    AMap.get? (l.foldl (fun m p => AMap.insert m p.1 p.2) m) k =
      match getL? l k with
      | some v => some v
      | none => AMap.get? m k := by
  induction l generalizing m with
  | nil => rfl
  | cons p rest ih =>
    simp only [List.foldl_cons, ih, getL?]
    cases getL? rest k with
    | some v => rfl
    | none =>
      simp only [AMap.get?_insert]
      by_cases h : p.1 = k
      · simp [h]
      · have : ¬ k = p.1 := fun e => h e.symm
        simp [h, this]

theorem foldl_put_nodup (l : List (Nat × V)) (m : AMap Nat V) (nd : AMap.Nodup m) :
    AMap.Nodup (l.foldl (fun m p => AMap.insert m p.1 p.2) m) := by
  induction l generalizing m with
  | nil => exact nd
  | cons p rest ih => exact ih _ (AMap.nodup_insert nd p.1 p.2)

/-- keys ascending, not strictly: rows with equal keys are allowed, and `ins_spec` says in which order they come -/
def Asc (l : List (Nat × V)) : Prop := l.Pairwise (fun a b => a.1 ≤ b.1)

theorem ins_nil (p : Nat × V) : sortedCache.ins p [] = [p] := by simp [sortedCache.ins]

theorem ins_cons (p q : Nat × V) (r : List (Nat × V)) :
    sortedCache.ins p (q :: r) = if p.1 < q.1 then p :: q :: r else q :: sortedCache.ins p r := by
  simp [sortedCache.ins]

theorem mem_ins (p : Nat × V) (l : List (Nat × V)) (x : Nat × V) : x ∈ sortedCache.ins p l ↔ x = p ∨ x ∈ l := by
  induction l with
  | nil => simp [ins_nil]
  | cons q r ih =>
    rw [ins_cons]
    split
    · simp
    · rw [List.mem_cons, ih, List.mem_cons, or_left_comm]

/-- In an ascending list the new row goes behind every row with the same key: it is the last binding. -/
theorem ins_spec (p : Nat × V) (l : List (Nat × V)) (h : Asc l) :
    Asc (sortedCache.ins p l) ∧ ∀ k, getL? (sortedCache.ins p l) k = if p.1 = k then some p.2 else getL? l k := by
  induction l with
  | nil => exact ⟨by simp [ins_nil, Asc], fun k => by simp [ins_nil, getL?]⟩
  | cons q r ih =>
    obtain ⟨hq, hr⟩ := List.pairwise_cons.mp h
    rw [ins_cons]
    split
    · rename_i hlt
      have hp : ∀ x ∈ q :: r, p.1 < x.1 := fun x hx => by
        rcases List.mem_cons.mp hx with rfl | hx
        · exact hlt
        · exact Nat.lt_of_lt_of_le hlt (hq x hx)
      refine ⟨List.pairwise_cons.mpr ⟨fun x hx => Nat.le_of_lt (hp x hx), h⟩, fun k => ?_⟩
      rw [getL?]
      by_cases hk : p.1 = k
      · rw [getL?_none_of_lt _ k (hk ▸ hp)]
      · rw [if_neg hk, if_neg hk]
        cases getL? (q :: r) k <;> rfl
    · rename_i hge
      obtain ⟨ha, hg⟩ := ih hr
      refine ⟨List.pairwise_cons.mpr ⟨fun x hx => ?_, ha⟩, fun k => ?_⟩
      · rcases (mem_ins p r x).mp hx with rfl | hx
        · exact Nat.le_of_not_lt hge
        · exact hq x hx
      · rw [getL?, hg, getL?]
        by_cases hk : p.1 = k <;> simp [hk]

theorem sortedCache_cons (db : AMap Nat V) (p : Nat × V) (c : AMap Nat V) :
    sortedCache { db := db, cache := p :: c } = sortedCache.ins p (sortedCache { db := db, cache := c }) := rfl

theorem sortedCache_spec (t : BlockDb V) :
    Asc t.sortedCache ∧ ∀ k, getL? t.sortedCache k = AMap.get? t.cache k := by
  obtain ⟨db, c⟩ := t
  induction c with
  | nil => exact ⟨List.Pairwise.nil, fun k => rfl⟩
  | cons p c ih =>
    obtain ⟨ha, hg⟩ := ins_spec p _ ih.1
    rw [sortedCache_cons]
    exact ⟨ha, fun k => by rw [hg, ih.2, AMap.get?_cons]⟩

theorem applyWrites_db (t : BlockDb V) (l : List (Nat × V)) :
    (t.applyWrites (l.map (fun p => BWrite.put p.1 p.2) ++ [BWrite.flush])).db =
      l.foldl (fun m p => AMap.insert m p.1 p.2) t.db ∧
    (t.applyWrites (l.map (fun p => BWrite.put p.1 p.2) ++ [BWrite.flush])).cache = t.cache := by
  induction l generalizing t with
  | nil => exact ⟨rfl, rfl⟩
  | cons p rest ih =>
    have := ih (t.applyWrite (BWrite.put p.1 p.2))
    simp only [applyWrites, List.map_cons, List.cons_append, List.foldl_cons] at this ⊢
    exact this

theorem commit_db (t : BlockDb V) :
    t.commit.db = t.sortedCache.foldl (fun m p => AMap.insert m p.1 p.2) t.db ∧ t.commit.cache = t.cache :=
  applyWrites_db t t.sortedCache

theorem commit_get? (t : BlockDb V) (k : Nat) :
    t.commit.db.get? k = match t.cache.get? k with | some v => some v | none => t.db.get? k := by
  rw [(commit_db t).1, foldl_put_get?, (sortedCache_spec t).2]

theorem commit_nodup (t : BlockDb V) (nd : AMap.Nodup t.db) : AMap.Nodup t.commit.db := by
  rw [(commit_db t).1]; exact foldl_put_nodup _ _ nd

theorem set_nodup {t : BlockDb V} (nd : AMap.Nodup t.db ∧ AMap.Nodup t.cache) (n : Nat) (v : V) :
    AMap.Nodup (t.set n v).db ∧ AMap.Nodup (t.set n v).cache :=
  ⟨nd.1, AMap.nodup_insert nd.2 n v⟩

theorem clear_nodup {t : BlockDb V} (nd : AMap.Nodup t.db) : AMap.Nodup t.clear.db ∧ AMap.Nodup t.clear.cache :=
  ⟨nd, by simp [clear, AMap.Nodup, AMap.keys]⟩

theorem commit_clear_nodup {t : BlockDb V} (nd : AMap.Nodup t.db) :
    AMap.Nodup t.commit.clear.db ∧ AMap.Nodup t.commit.clear.cache :=
  clear_nodup (commit_nodup t nd)

theorem get_commit_clear (t : BlockDb V) (k : Nat) : t.commit.clear.get k = t.get k := by
  rw [get_clear, commit_get?]; rfl

theorem lastKey_commit_clear (t : BlockDb V) : t.commit.clear.lastKey = t.lastKey :=
  lastKey_congr _ _ (fun k => by rw [get_commit_clear])

theorem mem_sortedCache (t : BlockDb V) (p : Nat × V) : p ∈ t.sortedCache ↔ p ∈ t.cache := by
  obtain ⟨db, c⟩ := t
  induction c with
  | nil => simp [sortedCache]
  | cons q c ih => rw [sortedCache_cons, mem_ins, ih]; exact List.mem_cons.symm

/-! ## `reorg` -/

theorem reorg_of_lastKey_none {t : BlockDb V} (h : t.lastKey = none) (n : Nat) : t.reorg n = t := by
  unfold reorg; rw [h]

theorem foldl_erase_get? (ks : List Nat) (m : AMap Nat V) (k : Nat) :
    AMap.get? (ks.foldl (fun m k => AMap.erase m k) m) k = if k ∈ ks then none else AMap.get? m k := by
  induction ks generalizing m with
  | nil => simp
  | cons a rest ih =>
    simp only [List.foldl_cons, ih, AMap.get?_erase, List.mem_cons]
    by_cases h1 : k ∈ rest
    · simp [h1]
    · by_cases h2 : k = a <;> simp [h1, h2]

theorem foldl_erase_nodup (ks : List Nat) (m : AMap Nat V) (nd : AMap.Nodup m) :
    AMap.Nodup (ks.foldl (fun m k => AMap.erase m k) m) := by
  induction ks generalizing m with
  | nil => exact nd
  | cons a rest ih => exact ih _ (AMap.nodup_erase nd a)

theorem mem_doomed (n e k : Nat) : k ∈ (List.range (e - n)).map (fun i => n + 1 + i) ↔ n < k ∧ k ≤ e := by
  simp only [List.mem_map, List.mem_range]
  constructor
  · rintro ⟨i, hi, rfl⟩; omega
  · intro h; exact ⟨k - (n + 1), by omega, by omega⟩

theorem get_reorg (t : BlockDb V) (n k : Nat) : (t.reorg n).get k = if k ≤ n then t.get k else none := by
  unfold reorg
  cases hl : t.lastKey with
  | none => simp [get_eq_none_of_lastKey_none hl]
  | some e =>
    simp only [get, foldl_erase_get?, mem_doomed]
    by_cases hk : k ≤ n
    · have : ¬ (n < k ∧ k ≤ e) := by omega
      simp [hk, this]
    · simp only [hk, if_false]
      by_cases hke : k ≤ e
      · have : n < k ∧ k ≤ e := by omega
        simp [this]
      · have := get_eq_none_iff.mp (get_eq_none_of_lastKey_lt hl (by omega : e < k))
        simp [this.1, this.2]

theorem reorg_nodup (t : BlockDb V) (n : Nat) (nd : AMap.Nodup t.db ∧ AMap.Nodup t.cache) :
    AMap.Nodup (t.reorg n).db ∧ AMap.Nodup (t.reorg n).cache := by
  unfold reorg
  cases t.lastKey with
  | none => exact nd
  | some e => exact ⟨foldl_erase_nodup _ _ nd.1, foldl_erase_nodup _ _ nd.2⟩

theorem mem_foldl_erase (ks : List Nat) (c : AMap Nat V) (p : Nat × V)
    (h : p ∈ ks.foldl (fun m k => AMap.erase m k) c) : p ∈ c := by
  induction ks generalizing c with
  | nil => exact h
  | cons a rest ih =>
    have := ih (AMap.erase c a) h
    unfold AMap.erase at this
    exact (List.mem_filter.mp this).1

theorem mem_cache_reorg (t : BlockDb V) (m : Nat) (p : Nat × V) (h : p ∈ (t.reorg m).cache) : p ∈ t.cache := by
  unfold reorg at h
  cases hl : t.lastKey with
  | none => rw [hl] at h; exact h
  | some e => rw [hl] at h; exact mem_foldl_erase _ _ _ h

theorem db_get?_reorg (t : BlockDb V) (m k : Nat) :
    (t.reorg m).db.get? k = t.db.get? k ∨ (m < k ∧ (t.reorg m).db.get? k = none) := by
  unfold reorg
  cases hl : t.lastKey with
  | none => exact Or.inl rfl
  | some e =>
    simp only [foldl_erase_get?, mem_doomed]
    by_cases hd : m < k ∧ k ≤ e
    · exact Or.inr ⟨hd.1, if_pos hd⟩
    · exact Or.inl (if_neg hd)

theorem db_get?_reorg_le (t : BlockDb V) {m k : Nat} (hk : k ≤ m) : (t.reorg m).db.get? k = t.db.get? k :=
  (db_get?_reorg t m k).resolve_right fun h => by omega

/-! ## gap-freeness -/

/-- no gap below the newest row -/
def Contig (t : BlockDb V) : Prop := ∀ e, t.lastKey = some e → ∀ k, k ≤ e → t.get k ≠ none

theorem get_of_lt_nextOf {t : BlockDb V} (c : Contig t) {k : Nat} (hk : k < nextOf t.lastKey) : t.get k ≠ none := by
  cases hl : t.lastKey with
  | none => rw [hl] at hk; exact absurd hk (Nat.not_lt_zero k)
  | some e => rw [hl] at hk; exact c e hl k (Nat.le_of_lt_succ hk)

theorem contig_set {t : BlockDb V} (c : Contig t) (n : Nat) (v : V) (hadj : n ≤ nextOf t.lastKey) :
    Contig (t.set n v) := by
  intro e he k hk
  rw [get_set]
  split
  · simp
  · rename_i hkn
    -- the newest row of `t.set n v` is `n` itself or a row of `t`
    have he' := get_of_lastKey he
    rw [get_set] at he'
    by_cases hen : e = n
    · exact get_of_lt_nextOf c (by omega)
    · rw [if_neg hen] at he'
      obtain ⟨e0, he0, hle⟩ := get_ne_none_le_lastKey he'
      exact c e0 he0 k (by omega)

theorem contig_commit_clear {t : BlockDb V} (c : Contig t) : Contig t.commit.clear := by
  intro e he k hk
  rw [lastKey_commit_clear] at he
  rw [get_commit_clear]
  exact c e he k hk

theorem contig_reorg {t : BlockDb V} (c : Contig t) (n : Nat) : Contig (t.reorg n) := by
  intro e he k hk
  rw [get_reorg]
  have h1 := get_of_lastKey he
  rw [get_reorg] at h1
  by_cases hen : e ≤ n
  · simp only [hen, if_true] at h1
    have : k ≤ n := by omega
    simp only [this, if_true]
    obtain ⟨e0, he0, hle⟩ := get_ne_none_le_lastKey h1
    exact c e0 he0 k (by omega)
  · simp [hen] at h1

theorem lastKey_reorg_of_get {t : BlockDb V} {n : Nat} (h : t.get n ≠ none) : (t.reorg n).lastKey = some n :=
  lastKey_of_get_le (get_reorg t n) h

/-- `nextOf` is `n + 1`, unless the table is empty: then `n = 0` and `nextOf` is `0` too. -/
theorem lastKey_reorg {t : BlockDb V} (c : Contig t) {n : Nat} (hn : n ≤ t.lastKey.getD 0) :
    ((t.reorg n).lastKey).getD 0 = n ∧ n ≤ nextOf (t.reorg n).lastKey ∧ nextOf (t.reorg n).lastKey ≤ n + 1 ∧
      nextOf (t.reorg n).lastKey ≤ nextOf t.lastKey := by
  cases hl : t.lastKey with
  | none =>
    rw [hl] at hn
    obtain rfl : n = 0 := Nat.le_zero.mp hn
    rw [reorg_of_lastKey_none hl, hl]
    exact ⟨rfl, Nat.le_refl _, Nat.zero_le _, Nat.le_refl _⟩
  | some e =>
    rw [hl] at hn
    rw [lastKey_reorg_of_get (c e hl n hn)]
    exact ⟨rfl, Nat.le_succ n, Nat.le_refl _, Nat.succ_le_succ hn⟩

theorem lastKey_le {t : BlockDb V} {m : Nat} (h : ∀ k, t.get k ≠ none → k ≤ m) :
    t.lastKey.getD 0 ≤ m ∧ nextOf t.lastKey ≤ m + 1 := by
  cases hl : t.lastKey with
  | none => exact ⟨Nat.zero_le _, Nat.zero_le _⟩
  | some e => exact ⟨h e (get_of_lastKey hl), Nat.succ_le_succ (h e (get_of_lastKey hl))⟩

end Brc20.BlockDb
