/-
Deadlock freedom of disciplined lock programs under writer-preferring read-write locks (`disciplined_never_stuck`).
The idea: in a stuck state every unfinished thread waits for a lock that some thread holds, and a holder that cannot
move is itself after a lock of strictly higher rank (`stuck_climb`); the ranks occurring in a finite system are
bounded, so no state is stuck.  Then `measure`, which every step lowers (termination, stated in Props/C11.lean), and
`runSched`, by which C11 exhibits the two deadlocks that the discipline excludes.
-/
import Brc20.Model.Locks

namespace Brc20.Locks

/-- The five shapes of a thread that `enabled`, `stepThread`, `blk` and `Inv` distinguish. -/
@[elab_as_elim] theorem Thread.shape {motive : Thread → Prop}
    (queued : ∀ todo held l, motive ⟨todo, held, some l⟩)
    (done : ∀ held, motive ⟨[], held, none⟩)
    (rd : ∀ l rest held, motive ⟨.rd l :: rest, held, none⟩)
    (wr : ∀ l rest held, motive ⟨.wr l :: rest, held, none⟩)
    (rel : ∀ l rest held, motive ⟨.rel l :: rest, held, none⟩) : ∀ t, motive t
  | ⟨_, _, some _⟩ => queued ..
  | ⟨[], _, none⟩ => done _
  | ⟨.rd _ :: _, _, none⟩ => rd ..
  | ⟨.wr _ :: _, _, none⟩ => wr ..
  | ⟨.rel _ :: _, _, none⟩ => rel ..

/-- the lock the thread's next operation is about, which is the only one it can be blocked on (`0` for a thread with
nothing to do) -/
def blk (t : Thread) : Nat :=
  match t.waitingW, t.todo with
  | some l, _ => l
  | none, .rd l :: _ => l
  | none, .wr l :: _ => l
  | none, .rel l :: _ => l
  | none, [] => 0

/-- the remaining program is disciplined relative to the guards currently held -/
def Inv (rank : Nat → Nat) (t : Thread) : Prop :=
  match t.waitingW with
  | none => checkProg rank t.todo t.held = true
  | some l =>
    t.held.all (fun h => rank h.1 < rank l) = true ∧ checkProg rank t.todo ((l, true) :: t.held) = true

theorem inv_step (rank : Nat → Nat) (t : Thread) (h : Inv rank t) : Inv rank (stepThread t) := by
  induction t using Thread.shape <;> simp only [Inv, stepThread, checkProg, Bool.and_eq_true] at h ⊢
  case queued => exact h.2
  case done => exact h
  case rd => exact h.2
  case wr => exact ⟨h.1.2, h.2⟩
  case rel => exact h.2

theorem inv_reach (rank : Nat → Nat) (ps : List Prog) (hd : ∀ p ∈ ps, Disciplined rank p) (s : Sys)
    (hr : Reach (initSys ps) s) : ∀ t ∈ s, Inv rank t := by
  induction hr with
  | refl =>
    intro t ht
    obtain ⟨p, hp, rfl⟩ := List.mem_map.mp ht
    exact hd p hp
  | step _ hs ih =>
    obtain ⟨i, t, hi, _, rfl⟩ := hs
    intro t' ht'
    rcases List.mem_or_eq_of_mem_set ht' with h | rfl
    · exact ih t' h
    · exact inv_step rank t (ih t (List.mem_of_getElem? hi))

def Holder (s : Sys) (l : Nat) : Prop := ∃ u ∈ s, ∃ h ∈ u.held, h.1 = l

theorem holder_of_writerHeld (s : Sys) (l : Nat) (h : writerHeld s l = true) : Holder s l := by
  simp only [writerHeld, List.any_eq_true, Bool.and_eq_true, beq_iff_eq] at h
  obtain ⟨u, hu, g, hg, hgl, _⟩ := h
  exact ⟨u, hu, g, hg, hgl⟩

theorem holder_of_readers (s : Sys) (l : Nat) (h : readersOf s l ≠ 0) : Holder s l := by
  obtain ⟨_, hx, hpos⟩ := List.sum_pos_iff_exists_pos_nat.mp (Nat.pos_of_ne_zero h)
  obtain ⟨u, hu, rfl⟩ := List.mem_map.mp hx
  obtain ⟨g, hg⟩ := List.exists_mem_of_length_pos hpos
  simp only [List.mem_filter, Bool.and_eq_true, beq_iff_eq] at hg
  exact ⟨u, hu, g, hg.1, hg.2.1⟩

theorem holder_blocked (rank : Nat → Nat) (s : Sys) (u : Thread) (hinv : Inv rank u)
    (hen : enabled s u = false) (g : Nat × Bool) (hg : g ∈ u.held) :
    finished u = false ∧ rank g.1 < rank (blk u) := by
  induction u using Thread.shape <;>
    simp only [Inv, checkProg, Bool.and_eq_true, List.all_eq_true, decide_eq_true_eq, List.isEmpty_iff] at hinv
  case queued => exact ⟨by simp [finished], hinv.1 g hg⟩
  case done =>
    subst hinv
    cases hg
  case rd => exact ⟨rfl, hinv.1.2 g hg⟩
  case wr => cases hen
  case rel => cases hen

theorem queued_has_holder (s : Sys) (w : Thread) (l : Nat) (hw : w.waitingW = some l)
    (hen : enabled s w = false) : Holder s l := by
  obtain ⟨todo, held, ww⟩ := w
  subst hw
  simp only [enabled, Bool.and_eq_false_iff, Bool.not_eq_false', beq_eq_false_iff_ne] at hen
  rcases hen with hwh | hrd
  · exact holder_of_writerHeld s l hwh
  · exact holder_of_readers s l hrd

/-- In a stuck state every unfinished thread waits behind one that is blocked on a strictly higher rank. The subtle
case: a reader kept out by a queued writer and no holder it could see - then that writer is stuck behind a holder of
the same lock. -/
theorem stuck_climb (rank : Nat → Nat) (s : Sys) (hinv : ∀ t ∈ s, Inv rank t)
    (hst : ∀ t ∈ s, enabled s t = false) (t : Thread) (ht : t ∈ s) (hunf : finished t = false) :
    ∃ t' ∈ s, finished t' = false ∧ rank (blk t) < rank (blk t') := by
  have key : Holder s (blk t) := by
    have hen := hst t ht
    induction t using Thread.shape
    case queued l => exact queued_has_holder s _ l rfl hen
    case done => cases hunf
    case rd l _ _ =>
      simp only [enabled, Bool.and_eq_false_iff, Bool.not_eq_false'] at hen
      rcases hen with hwh | hww
      · exact holder_of_writerHeld s l hwh
      · simp only [writerWaiting, List.any_eq_true, beq_iff_eq] at hww
        obtain ⟨w, hws, hw⟩ := hww
        exact queued_has_holder s w l hw (hst w hws)
    case wr => cases hen
    case rel => cases hen
  obtain ⟨u, hu, g, hg, hgl⟩ := key
  have := holder_blocked rank s u (hinv u hu) (hst u hu) g hg
  rw [hgl] at this
  exact ⟨u, hu, this⟩

theorem ranks_bounded (rank : Nat → Nat) (s : Sys) : ∃ B, ∀ t ∈ s, rank (blk t) < B := by
  induction s with
  | nil => exact ⟨0, nofun⟩
  | cons a s ih =>
    obtain ⟨B, hB⟩ := ih
    refine ⟨max B (rank (blk a) + 1), fun t ht => ?_⟩
    rcases List.mem_cons.mp ht with rfl | h
    · omega
    · have := hB t h
      omega

theorem disciplined_never_stuck (rank : Nat → Nat) (ps : List Prog)
    (hd : ∀ p ∈ ps, Disciplined rank p) (s : Sys) (hr : Reach (initSys ps) s) : ¬ Stuck s := by
  intro ⟨⟨t0, ht0, hunf0⟩, hst⟩
  have hinv := inv_reach rank ps hd s hr
  -- `stuck_climb`, iterated from `t0`, reaches every rank; `ranks_bounded` says it cannot
  have climb : ∀ k : Nat, ∃ t ∈ s, finished t = false ∧ k ≤ rank (blk t) := by
    intro k
    induction k with
    | zero => exact ⟨t0, ht0, hunf0, Nat.zero_le _⟩
    | succ k ih =>
      obtain ⟨t, ht, hunf, hk⟩ := ih
      obtain ⟨t', ht', hunf', hlt⟩ := stuck_climb rank s hinv hst t ht hunf
      exact ⟨t', ht', hunf', by omega⟩
  obtain ⟨B, hB⟩ := ranks_bounded rank s
  obtain ⟨t, ht, _, hk⟩ := climb B
  have := hB t ht
  omega

/-- **Termination**: every step consumes program text or turns a queued request into a held guard, so every step
lowers this number (`C11.runs_are_finite`).  What follows from that, and is not stated as a theorem: a run from
`initSys ps` has at most `2 * total program length` steps and, with progress, ends with all threads finished. -/
def measure (s : Sys) : Nat := (s.map (fun t => 2 * t.todo.length + (if t.waitingW.isSome then 1 else 0))).sum

theorem sum_set_lt {α} (f : α → Nat) (s : List α) (i : Nat) (t x : α) (hi : s[i]? = some t) (hlt : f x < f t) :
    ((s.set i x).map f).sum < (s.map f).sum := by
  induction s generalizing i with
  | nil => cases hi
  | cons a s ih =>
    cases i with
    | zero =>
      cases hi
      simp only [List.set_cons_zero, List.map_cons, List.sum_cons]
      omega
    | succ i =>
      have := ih i hi
      simp only [List.set_cons_succ, List.map_cons, List.sum_cons]
      omega

theorem stepThread_measure (s : Sys) (t : Thread) (hen : enabled s t = true) :
    2 * (stepThread t).todo.length + (if (stepThread t).waitingW.isSome then 1 else 0)
      < 2 * t.todo.length + (if t.waitingW.isSome then 1 else 0) := by
  induction t using Thread.shape
  case done => cases hen
  all_goals simp [stepThread]
  all_goals omega

/-- run a schedule (the indices of the threads that move); `none` if a scheduled thread is missing or cannot move -/
def runSched : Sys → List Nat → Option Sys
  | s, [] => some s
  | s, i :: is =>
    match s[i]? with
    | some t => if enabled s t then runSched (s.set i (stepThread t)) is else none
    | none => none

theorem reach_runSched {s0 s s' : Sys} (h : Reach s0 s) {is : List Nat} (hr : runSched s is = some s') :
    Reach s0 s' := by
  induction is generalizing s with
  | nil =>
    cases hr
    exact h
  | cons i is ih =>
    unfold runSched at hr
    split at hr
    · next t ht =>
      split at hr
      · next hen => exact ih (h.step ⟨i, t, ht, hen, rfl⟩) hr
      · cases hr
    · cases hr

instance (s : Sys) : Decidable (Stuck s) := by
  unfold Stuck
  exact inferInstance

theorem deadlock_of_sched (ps : List Prog) (is : List Nat)
    (h : ∃ s, runSched (initSys ps) is = some s ∧ Stuck s) : ∃ s, Reach (initSys ps) s ∧ Stuck s :=
  let ⟨s, hr, hs⟩ := h
  ⟨s, reach_runSched .refl hr, hs⟩

end Brc20.Locks
