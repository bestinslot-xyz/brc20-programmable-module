/-
Losslessness, self-delimitation and order preservation of the storage codec model.
-/
import Brc20.Model.Codec

namespace Brc20
open Ty

theorem length_beBytes (w n : Nat) : (beBytes w n).length = w := by
  induction w generalizing n with
  | zero => simp [beBytes]
  | succ w ih => simp [beBytes, ih]

theorem top_digit_lt {w n : Nat} (h : n < 256 ^ (w + 1)) : n / 256 ^ w < 256 := by
  rw [Nat.div_lt_iff_lt_mul (Nat.pow_pos (by decide))]
  rw [Nat.pow_succ, Nat.mul_comm] at h
  exact h

theorem beVal_beBytes (w n : Nat) (h : n < 256 ^ w) : beVal (beBytes w n) = n := by
  induction w generalizing n with
  | zero => simp at h; simp [beBytes, beVal, h]
  | succ w ih =>
    have hd := top_digit_lt h
    have hP : 0 < 256 ^ w := Nat.pow_pos (by decide)
    simp only [beBytes, beVal, length_beBytes]
    rw [ih _ (Nat.mod_lt _ hP), Nat.mod_eq_of_lt hd, UInt8.toNat_ofNat_of_lt' hd]
    exact Nat.div_add_mod' n (256 ^ w)

theorem takeN_append (l rest : Bytes) : takeN l.length (l ++ rest) = some (l, rest) := by
  simp [takeN]

theorem takeN_of_length {k : Nat} (l rest : Bytes) (h : l.length = k) :
    takeN k (l ++ rest) = some (l, rest) := by
  subst h; exact takeN_append l rest

theorem takeN_beBytes (w n : Nat) (rest : Bytes) :
    takeN w (beBytes w n ++ rest) = some (beBytes w n, rest) :=
  takeN_of_length _ _ (length_beBytes w n)

theorem decodeMany_flatten {α : Type} (dec : Bytes → Option (α × Bytes)) (enc : α → Bytes)
    (xs : List α) (rest : Bytes)
    (h : ∀ x ∈ xs, ∀ r, dec (enc x ++ r) = some (x, r)) :
    decodeMany dec xs.length ((xs.map enc).flatten ++ rest) = some (xs, rest) := by
  induction xs with
  | nil => simp [decodeMany]
  | cons x xs ih =>
    have hx := h x (by simp)
    have ih' := ih (fun y hy => h y (by simp [hy]))
    simp only [List.length_cons, List.map_cons, List.flatten_cons, List.append_assoc, decodeMany,
      hx, ih']

theorem decode_be (w n : Nat) (rest : Bytes) (h : n < 256 ^ w) :
    (takeN w (beBytes w n ++ rest)).map (fun p => (beVal p.1, p.2)) = some (n, rest) := by
  rw [takeN_beBytes, Option.map_some, beVal_beBytes w n h]

theorem Ty.roundtrip (t : Ty) (x : t.denote) (rest : Bytes) (wf : WF t x) :
    decode t (encode t x ++ rest) = some (x, rest) := by
  induction t generalizing rest with
  -- the bounds of `WF` (`2 ^ 32`, `2 ^ 64`) are the numerals `256 ^ 4`, `256 ^ 8`
  | u8 => exact decode_be 1 x rest wf
  | u32 => exact decode_be 4 x rest wf
  | u64 => exact decode_be 8 x rest wf
  | uint l => exact decode_be (8 * l) x rest wf
  | fixed n =>
    simp only [WF] at wf
    simp only [encode, decode]
    exact takeN_of_length _ _ wf
  | bytes =>
    simp only [WF] at wf
    simp only [encode, decode, List.append_assoc, takeN_beBytes]
    rw [beVal_beBytes 4 _ wf]
    exact takeN_append _ _
  | opt t ih =>
    cases x with
    | none => simp [encode, decode]
    | some x =>
      simp only [WF] at wf
      simp [encode, decode, ih x rest wf]
  | vec t ih =>
    simp only [WF] at wf
    simp only [encode, decode, List.append_assoc, takeN_beBytes]
    rw [beVal_beBytes 4 _ wf.1]
    exact decodeMany_flatten _ _ _ _ (fun y hy r => ih y r (wf.2 y hy))
  | pair a b iha ihb =>
    obtain ⟨x, y⟩ := x
    simp only [WF] at wf
    simp only [encode, decode, List.append_assoc, iha x _ wf.1, ihb y _ wf.2]
  | unit => simp [encode, decode]

theorem bytesLt_iff (a b : Bytes) : bytesLt a b = true ↔ a < b := by
  induction a generalizing b with
  | nil => cases b <;> simp [bytesLt]
  | cons x xs ih =>
    cases b with
    | nil => simp [bytesLt]
    | cons y ys =>
      simp only [bytesLt, List.cons_lt_cons_iff, ← ih]
      by_cases h1 : x < y
      · simp [h1]
      · by_cases h2 : y < x
        · simp [h1, h2, UInt8.ne_of_lt h2 |>.symm]
        · simp [UInt8.le_antisymm (UInt8.not_lt.mp h2) (UInt8.not_lt.mp h1)]

theorem bytesLt_irrefl (a : Bytes) : bytesLt a a = false :=
  Bool.eq_false_iff.mpr fun h => List.lt_irrefl a ((bytesLt_iff a a).mp h)

theorem bytesLt_trans (a b c : Bytes) (h1 : bytesLt a b = true) (h2 : bytesLt b c = true) : bytesLt a c = true :=
  (bytesLt_iff a c).mpr (List.lt_trans ((bytesLt_iff a b).mp h1) ((bytesLt_iff b c).mp h2))

theorem bytesLt_total (a b : Bytes) : bytesLt a b = true ∨ a = b ∨ bytesLt b a = true := by
  simp only [bytesLt_iff]
  by_cases h1 : a < b
  · exact .inl h1
  · by_cases h2 : b < a
    · exact .inr (.inr h2)
    · exact .inr (.inl (List.le_antisymm (List.not_lt.mp h2) (List.not_lt.mp h1)))

theorem lt_iff_div_mod (a b P : Nat) :
    a < b ↔ a / P < b / P ∨ (a / P = b / P ∧ a % P < b % P) := by
  by_cases h1 : a / P = b / P
  · have ea := Nat.div_add_mod a P
    have eb := Nat.div_add_mod b P
    rw [h1] at ea
    generalize P * (b / P) = k at ea eb
    omega
  · constructor
    · intro h
      exact .inl (Nat.lt_of_le_of_ne (Nat.div_le_div_right (Nat.le_of_lt h)) h1)
    · rintro (h | ⟨h, _⟩)
      · exact Nat.lt_of_div_lt_div h
      · exact absurd h h1

theorem beBytes_lt_iff (w a b : Nat) (ha : a < 256 ^ w) (hb : b < 256 ^ w) :
    beBytes w a < beBytes w b ↔ a < b := by
  induction w generalizing a b with
  | zero =>
    simp at ha hb
    subst ha hb
    simp [beBytes]
  | succ w ih =>
    have hda := top_digit_lt ha
    have hdb := top_digit_lt hb
    have hP : 0 < 256 ^ w := Nat.pow_pos (by decide)
    -- the top digits are below 256: as bytes they compare as they do as numbers; the lower digits by `ih`
    simp only [beBytes, List.cons_lt_cons_iff, ih _ _ (Nat.mod_lt _ hP) (Nat.mod_lt _ hP), Nat.mod_eq_of_lt hda,
      Nat.mod_eq_of_lt hdb, UInt8.lt_iff_toNat_lt, ← UInt8.toNat_inj, UInt8.toNat_ofNat_of_lt' hda,
      UInt8.toNat_ofNat_of_lt' hdb]
    exact (lt_iff_div_mod a b (256 ^ w)).symm

theorem be_order (w a b : Nat) (ha : a < 256 ^ w) (hb : b < 256 ^ w) :
    bytesLt (beBytes w a) (beBytes w b) = decide (a < b) := by
  rw [Bool.eq_iff_iff, bytesLt_iff, decide_eq_true_iff]
  exact beBytes_lt_iff w a b ha hb

theorem append_lt_iff (x₁ x₂ y₁ y₂ : Bytes) (hl : x₁.length = x₂.length) :
    x₁ ++ y₁ < x₂ ++ y₂ ↔ x₁ < x₂ ∨ (x₁ = x₂ ∧ y₁ < y₂) := by
  induction x₁ generalizing x₂ with
  | nil =>
    cases x₂ with
    | nil => simp
    | cons b bs => simp at hl
  | cons a as ih =>
    cases x₂ with
    | nil => simp at hl
    | cons b bs =>
      simp only [List.cons_append, List.cons_lt_cons_iff, ih bs (by simpa using hl), List.cons.injEq,
        and_or_left, or_assoc, and_assoc]

end Brc20
