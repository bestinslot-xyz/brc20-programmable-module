/-
Lemmas about the per-key history model.  Everything is phrased through `Hist.valAt`; on an ascending history
`valAt h m` is the value of the newest entry of `cut m h` (`valAt_eq`), and `put` drops a last entry stamped `b` and
appends (`put_eq`).
-/
import Brc20.Model.Hist

set_option linter.unusedSectionVars false

namespace Brc20.Hist
variable {V : Type} [DecidableEq V]

/-- Keys strictly ascending (what a `BTreeMap` iteration yields). -/
def Sorted (h : Hist V) : Prop := h.Pairwise (fun a b => a.1 < b.1)

def KeysLe (h : Hist V) (b : Nat) : Prop := ∀ e ∈ h, e.1 ≤ b

/-- `h` without the entries above block `n` (what `reorg n` keeps) -/
abbrev cut (n : Nat) (h : Hist V) : Hist V := h.filter (fun e => decide (e.1 ≤ n))

theorem sorted_nil : Sorted ([] : Hist V) := List.Pairwise.nil

theorem Sorted.tail {e : Nat × Option V} {h : Hist V} (s : Sorted (e :: h)) : Sorted h :=
  List.Pairwise.of_cons s

theorem Sorted.head_lt {e : Nat × Option V} {h : Hist V} (s : Sorted (e :: h)) : ∀ x ∈ h, e.1 < x.1 :=
  fun _ hx => List.rel_of_pairwise_cons s hx

theorem sorted_cut {h : Hist V} (s : Sorted h) (n : Nat) : Sorted (cut n h) :=
  List.Pairwise.filter _ s

theorem keysLe_mono {h : Hist V} {a b : Nat} (k : KeysLe h a) (hab : a ≤ b) : KeysLe h b :=
  fun e he => Nat.le_trans (k e he) hab

theorem keysLe_cut (n : Nat) (h : Hist V) : KeysLe (cut n h) n :=
  fun e he => by simpa using (List.mem_filter.mp he).2

theorem cut_cut (n : Nat) (h : Hist V) : cut n (cut n h) = cut n h := by simp [List.filter_filter]

theorem cut_new (n : Nat) (x : Option V) : cut n (Hist.new x) = Hist.new x := by simp [Hist.new]

theorem valAt_new (i : Option V) (m : Nat) : valAt (Hist.new i) m = some i := by
  simp [Hist.new, valAt]

theorem latest_new (i : Option V) : latest (Hist.new i) = i := by
  simp [Hist.new, latest]

theorem cut_cons_of_le {e : Nat × Option V} {n : Nat} (he : e.1 ≤ n) (h : Hist V) : cut n (e :: h) = e :: cut n h :=
  List.filter_cons_of_pos (by simpa using he)

theorem Sorted.cut_cons_of_lt {e : Nat × Option V} {rest : Hist V} (s : Sorted (e :: rest)) {n : Nat} (hn : n < e.1) :
    cut n (e :: rest) = [] := by
  refine List.filter_eq_nil_iff.mpr fun y hy => ?_
  have : n < y.1 := by
    rcases List.mem_cons.mp hy with rfl | hy'
    · exact hn
    · exact Nat.lt_trans hn (s.head_lt y hy')
  simpa using this

theorem nil_or_concat (h : Hist V) : h = [] ∨ ∃ init l x, h = init ++ [(l, x)] := by
  rcases List.eq_nil_or_concat h with e | ⟨init, ⟨l, x⟩, e⟩
  · exact .inl e
  · exact .inr ⟨init, l, x, e.trans List.concat_eq_append⟩

theorem latest_concat (init : Hist V) (l : Nat) (x : Option V) : latest (init ++ [(l, x)]) = x := by
  simp only [latest, List.getLast?_concat]

theorem lastKey?_concat (init : Hist V) (l : Nat) (x : Option V) : lastKey? (init ++ [(l, x)]) = some l := by
  simp only [lastKey?, List.getLast?_concat, Option.map_some]

theorem latest_cons_ne_nil {e : Nat × Option V} {h : Hist V} (hne : h ≠ []) : latest (e :: h) = latest h := by
  cases h with
  | nil => exact absurd rfl hne
  | cons x xs => simp [latest, List.getLast?_cons_cons]

theorem lastKey?_none {h : Hist V} (hl : lastKey? h = none) : h = [] := by
  unfold lastKey? at hl
  cases hg : h.getLast? with
  | none => exact List.getLast?_eq_none_iff.mp hg
  | some e => simp [hg] at hl

theorem keysLe_lastKey {h : Hist V} (s : Sorted h) {l : Nat} (hl : lastKey? h = some l) : KeysLe h l := by
  rcases nil_or_concat h with rfl | ⟨init, l', x, rfl⟩
  · intro e he; cases he
  · rw [lastKey?_concat] at hl
    cases hl
    intro e he
    rcases List.mem_append.mp he with h1 | h1
    · exact Nat.le_of_lt ((List.pairwise_append.mp s).2.2 e h1 _ (List.mem_singleton_self _))
    · rw [List.mem_singleton.mp h1]; exact Nat.le_refl l

theorem valAt_cons_gt {e : Nat × Option V} {h : Hist V} {m : Nat} (hgt : m < e.1) : valAt (e :: h) m = none := by
  obtain ⟨b, v⟩ := e
  rw [valAt, if_neg (Nat.not_le_of_lt hgt)]

theorem valAt_cons_le {e : Nat × Option V} {h : Hist V} {m : Nat} (hle : e.1 ≤ m) :
    valAt (e :: h) m = some ((valAt h m).getD e.2) := by
  obtain ⟨b, v⟩ := e
  rw [valAt, if_pos hle]
  cases valAt h m <;> rfl

theorem valAt_none_of_lt {h : Hist V} {m : Nat} (s : Sorted h) (hlt : ∀ e ∈ h, m < e.1) : valAt h m = none := by
  cases h with
  | nil => rfl
  | cons e rest => exact valAt_cons_gt (hlt e (List.mem_cons_self ..))

theorem valAt_eq {h : Hist V} (s : Sorted h) (m : Nat) : valAt h m = (cut m h).getLast?.map (·.2) := by
  induction h with
  | nil => rfl
  | cons e rest ih =>
    by_cases he : e.1 ≤ m
    · rw [valAt_cons_le he, ih s.tail, cut_cons_of_le he, List.getLast?_cons]
      cases (cut m rest).getLast? <;> rfl
    · rw [valAt_cons_gt (by omega), s.cut_cons_of_lt (by omega)]
      rfl

theorem valAt_cut {h : Hist V} (s : Sorted h) (n m : Nat) : valAt (cut n h) m = valAt h (min m n) := by
  rw [valAt_eq (sorted_cut s n), valAt_eq s, cut, cut, List.filter_filter]
  congr 3; funext e; simp only [← Bool.decide_and, Nat.le_min]

theorem valAt_eq_none {h : Hist V} (s : Sorted h) (n : Nat) : valAt h n = none ↔ cut n h = [] := by
  rw [valAt_eq s, Option.map_eq_none_iff, List.getLast?_eq_none_iff]

theorem valAt_eq_latest {h : Hist V} (s : Sorted h) {m : Nat} (hne : h ≠ []) (k : KeysLe h m) :
    valAt h m = some (latest h) := by
  rw [valAt_eq s, cut, List.filter_eq_self.mpr (fun e he => by simpa using k e he), latest]
  cases hg : h.getLast? with
  | none => exact absurd (List.getLast?_eq_none_iff.mp hg) hne
  | some e => rfl

theorem valAt_eq_latest_cut {h : Hist V} (s : Sorted h) {n : Nat} (hne : cut n h ≠ []) :
    valAt h n = some (latest (cut n h)) := by
  rw [← valAt_eq_latest (sorted_cut s n) hne (keysLe_cut n h), valAt_cut s, Nat.min_self]

theorem getLast?_put (h : Hist V) (b : Nat) (v : Option V) : (put h b v).getLast? = some (b, v) := by
  fun_induction put h b v
  · rfl
  · rfl
  · rfl
  · rename_i e rest _ ih
    rw [List.getLast?_cons, ih]; rfl

theorem put_ne_nil {h : Hist V} {b : Nat} {v : Option V} : put h b v ≠ [] := by
  intro e
  have := getLast?_put h b v
  rw [e] at this; cases this

theorem lastKey?_put (h : Hist V) (b : Nat) (x : Option V) : lastKey? (put h b x) = some b := by
  rw [lastKey?, getLast?_put]; rfl

theorem put_eq {h : Hist V} {b : Nat} (s : Sorted h) (k : KeysLe h b) (v : Option V) :
    put h b v = h.filter (fun e => decide (e.1 < b)) ++ [(b, v)] := by
  fun_induction put h b v
  · rfl
  · simp
  · rename_i b' v' hne
    have : b' ≤ b := k (b', v') (by simp)
    have : b' < b := by omega
    simp [this]
  · rename_i e rest hne ih
    have he : e.1 < b := by
      cases rest with
      | nil => exact (hne e.1 e.2 rfl rfl).elim
      | cons r rs => have := s.head_lt r (by simp); have := k r (by simp); omega
    rw [ih s.tail (fun x hx => k x (by simp [hx])), List.filter_cons_of_pos (by simpa using he)]
    rfl

theorem keysLe_put {h : Hist V} {b : Nat} {v : Option V} (s : Sorted h) (k : KeysLe h b) : KeysLe (put h b v) b := by
  rw [put_eq s k]
  intro x hx
  rcases List.mem_append.mp hx with h1 | h1
  · exact k x (List.mem_filter.mp h1).1
  · rw [List.mem_singleton.mp h1]; exact Nat.le_refl b

theorem sorted_put {h : Hist V} {b : Nat} {v : Option V} (s : Sorted h) (k : KeysLe h b) : Sorted (put h b v) := by
  rw [put_eq s k]
  refine List.pairwise_append.mpr ⟨List.Pairwise.filter _ s, List.pairwise_singleton _ _, fun a ha c hc => ?_⟩
  rw [List.mem_singleton.mp hc]
  simpa using (List.mem_filter.mp ha).2

theorem valAt_put {h : Hist V} {b : Nat} {v : Option V} (s : Sorted h) (k : KeysLe h b) (m : Nat) :
    valAt (put h b v) m = if b ≤ m then some v else valAt h m := by
  rw [valAt_eq (sorted_put s k), valAt_eq s, put_eq s k, cut, cut, List.filter_append, List.filter_filter]
  split
  · rename_i hb; simp [hb]
  · rename_i hb
    have : List.filter (fun e : Nat × Option V => decide (e.1 ≤ m)) [(b, v)] = [] := by simp [hb]
    rw [this, List.append_nil]
    -- here `m < b`, so "below `b` and at most `m`" is "at most `m`"
    congr 3; funext e
    simp only [← Bool.decide_and, decide_eq_decide]; omega

theorem latest_put (h : Hist V) (b : Nat) (x : Option V) : latest (put h b x) = x := by
  rw [latest, getLast?_put]

theorem put_concat (init : Hist V) (l : Nat) (y : Option V) (b : Nat) (x : Option V) :
    put (init ++ [(l, y)]) b x = if l = b then init ++ [(b, x)] else init ++ [(l, y)] ++ [(b, x)] := by
  induction init with
  | nil => rfl
  | cons e rest ih =>
    have : put (e :: (rest ++ [(l, y)])) b x = e :: put (rest ++ [(l, y)]) b x := by cases rest <;> rfl
    rw [List.cons_append, this, ih]
    split <;> rfl

theorem prune_suffix (W : Nat) (h : Hist V) (b : Nat) : prune W h b <:+ h := by
  fun_induction prune W h b
  · rename_i e₁ e₂ rest _ ih
    exact ih.trans (List.suffix_cons _ _)
  · exact List.suffix_refl _
  · exact List.suffix_refl _

theorem sorted_prune (W : Nat) {h : Hist V} {b : Nat} (s : Sorted h) : Sorted (prune W h b) :=
  List.Pairwise.sublist (prune_suffix W h b).sublist s

theorem keysLe_prune (W : Nat) {h : Hist V} {b c : Nat} (k : KeysLe h c) : KeysLe (prune W h b) c :=
  fun x hx => k x ((prune_suffix W h b).subset hx)

/-- Pruning forgets only entries superseded at or before block `b - W`. -/
theorem valAt_prune (W : Nat) {h : Hist V} {b : Nat} (s : Sorted h) {m : Nat} (hm : b ≤ m + W) :
    valAt (prune W h b) m = valAt h m := by
  fun_induction prune W h b
  · rename_i e₁ e₂ rest hle ih
    rw [ih s.tail]
    have h12 : e₁.1 < e₂.1 := s.head_lt e₂ (by simp)
    have h2 : e₂.1 ≤ m := by omega
    have h1 : e₁.1 ≤ m := by omega
    rw [valAt_cons_le (h := e₂ :: rest) h1, valAt_cons_le h2]
    simp
  · rfl
  · rfl

theorem getLast?_prune (W : Nat) (h : Hist V) (b : Nat) : (prune W h b).getLast? = h.getLast? := by
  fun_induction prune W h b
  · rename_i e₁ e₂ rest _ ih
    rw [ih, List.getLast?_cons_cons]
  · rfl
  · rfl

theorem prune_ne_nil (W : Nat) {h : Hist V} {b : Nat} (hne : h ≠ []) : prune W h b ≠ [] :=
  fun e => hne (List.getLast?_eq_none_iff.mp (by rw [← getLast?_prune W h b, e]; rfl))

theorem lastKey?_prune (W : Nat) (h : Hist V) (b : Nat) : lastKey? (prune W h b) = lastKey? h := by
  rw [lastKey?, getLast?_prune]; rfl

theorem latest_prune (W : Nat) (h : Hist V) (b : Nat) : latest (prune W h b) = latest h := by
  rw [latest, getLast?_prune]; rfl

theorem reorg_eq (h : Hist V) (n : Nat) : Hist.reorg h n = if cut n h = [] then none else some (cut n h) := by
  simp only [Hist.reorg, List.isEmpty_iff]

theorem reorg_none_iff {h : Hist V} (s : Sorted h) (n : Nat) : reorg h n = none ↔ valAt h n = none := by
  rw [valAt_eq_none s, reorg_eq]; split <;> simp [*]

theorem reorg_some {h h' : Hist V} {n : Nat} (hr : reorg h n = some h') : h' = cut n h ∧ h' ≠ [] := by
  rw [reorg_eq] at hr
  split at hr
  · cases hr
  · rename_i hne; cases hr; exact ⟨rfl, hne⟩

theorem length_le_of_range {h : Hist V} (s : Sorted h) {lo hi : Nat} (r : ∀ e ∈ h, lo < e.1 ∧ e.1 ≤ hi) :
    h.length ≤ hi - lo := by
  induction h generalizing lo with
  | nil => simp
  | cons e rest ih =>
    have he := r e (by simp)
    have := ih s.tail (lo := e.1) (fun x hx => ⟨s.head_lt x hx, (r x (by simp [hx])).2⟩)
    simp; omega

/-- Pruning stops at the first pair `e₁, e₂` with `b < e₂.1 + W`; the entries after `e₂` have their keys in
`(e₂.1, b]`, so there are fewer than `W` of them (`length_le_of_range`). -/
theorem length_prune (W : Nat) {h : Hist V} {b : Nat} (s : Sorted h) (k : KeysLe h b) :
    (prune W h b).length ≤ W + 1 := by
  fun_induction prune W h b
  · rename_i e₁ e₂ rest hle ih
    exact ih s.tail (fun x hx => k x (by simp [hx]))
  · rename_i e₁ e₂ rest hle
    have hs := s.tail
    have : rest.length ≤ b - e₂.1 := by
      apply length_le_of_range hs.tail
      intro x hx
      exact ⟨hs.head_lt x hx, k x (by simp [hx])⟩
    have h2 : e₂.1 ≤ b := k e₂ (by simp)
    simp at this ⊢; omega
  · rename_i h hne
    cases h with
    | nil => simp
    | cons e rest =>
      cases rest with
      | nil => simp
      | cons e2 r2 => exact absurd rfl (hne e e2 r2)

end Brc20.Hist
