/-
The recorded events of one call, as the model applies them (`Node.applyEvents`), and the plain logs they advance
(`Ghost`). A recorded write is either a write to a versioned table or a row of a block table; everything proved
about an event list goes through the induction principle `applyEvents_induction`.
-/
import Brc20.Model.Node
import Brc20.Model.TableSpec
import Brc20.Proofs.Table

namespace Brc20
open Node

/-- one plain log per versioned table -/
abbrev GSpec := TId → TSpec String String

/-- `s i`: the plain log of table `i`; `d i`: that log as of the last commit (with the counters of that moment). -/
structure Ghost where
  s : GSpec
  d : GSpec

namespace Ghost

def init : Ghost := ⟨fun _ => TSpec.init, fun _ => TSpec.init⟩

/-- the table-API call a recorded write stands for -/
def wop (stamp : Nat) (key : String) : Option String → TOp String String
  | some v => .set stamp key v
  | none => .unset stamp key

def upd (G : Ghost) (i : TId) (op : TOp String String) : Ghost :=
  { G with s := fun j => if j = i then (G.s i).step op else G.s j }

def applyS (G : Ghost) (table : String) (stamp : Nat) (key : String) (value : Option String) : Ghost :=
  match TId.ofName table with
  | some i => G.upd i (wop stamp key value)
  | none => G

def events (G : Ghost) : List Ev → Ghost
  | [] => G
  | .s tb st k v :: rest => events (G.applyS tb st k v) rest
  | _ :: rest => events G rest

/-- `commit_changes` at height `nb` -/
def commit (G : Ghost) (nb : Nat) : Ghost :=
  let s' : GSpec := fun i => (G.s i).step (.commit nb)
  ⟨s', s'⟩

/-- `clear_caches`, stop + reopen: back to the logs as of the last commit -/
def clear (G : Ghost) : Ghost := ⟨G.d, G.d⟩

/-- `Brc20ProgDatabase::reorg`: every table rolled back to `target`, then `commit_changes` at `nb` -/
def reorg (G : Ghost) (target nb : Nat) : Ghost :=
  let s' : GSpec := fun i => ((G.s i).step (.reorg target)).step (.commit nb)
  ⟨s', s'⟩

end Ghost

namespace Table
variable {W : Nat} {t t' : Table String String} {b : Nat} {k : String} {x : Option String}

theorem step_wop (h : t.step W (Ghost.wop b k x) = some t') : t' = t.setHist k (Hist.write W (t.eff k) b x) := by
  cases x with
  | some v => exact Table.set_some h
  | none => exact Table.unset_some h

theorem latest_step_wop (h : t.step W (Ghost.wop b k x) = some t') (key : String) :
    t'.latest key = if key = k then x else t.latest key := by
  rw [step_wop h, Table.latest_setHist, Hist.write_latest]

theorem step_wop_clear (h : t.step W (Ghost.wop b k x) = some t') : t'.clear = t.clear := by
  rw [step_wop h]; rfl

end Table

theorem TId.ofName_eq_some {tb : String} {i : TId} : TId.ofName tb = some i ↔ tb = i.name := by
  constructor
  · intro h
    have := List.find?_some h
    simp only [beq_iff_eq] at this
    exact this.symm
  · rintro rfl; cases i <;> decide

theorem BId.ofName_eq_some {tb : String} {i : BId} : BId.ofName tb = some i ↔ tb = i.name := by
  constructor
  · intro h
    have := List.find?_some h
    simp only [beq_iff_eq] at this
    exact this.symm
  · rintro rfl; cases i <;> decide

theorem TId.name_inj {i j : TId} (h : i.name = j.name) : i = j :=
  Option.some.inj ((TId.ofName_eq_some.mpr rfl).symm.trans (TId.ofName_eq_some.mpr h))

theorem TId.ofName_bname (i : BId) : TId.ofName i.name = none := by cases i <;> decide

namespace Node

theorem setT_t (n : Node) (i : TId) (x : Table String String) (j : TId) :
    (n.setT i x).t j = if j = i then x else n.t j := rfl

theorem setB_b (n : Node) (i : BId) (x : BlockDb String) (j : BId) :
    (n.setB i x).b j = if j = i then x else n.b j := rfl

theorem wop_top (s : TSpec String String) (e : Nat) (k : String) (x : Option String) :
    (s.step (Ghost.wop e k x)).top = e := by cases x <;> rfl

theorem wop_maxEver (s : TSpec String String) (e : Nat) (k : String) (x : Option String) :
    (s.step (Ghost.wop e k x)).maxEver = max s.maxEver e := by cases x <;> rfl

theorem wop_dur (s : TSpec String String) (e : Nat) (k : String) (x : Option String) :
    (s.step (Ghost.wop e k x)).dur = s.dur := by cases x <;> rfl

theorem wop_legal {s : TSpec String String} {e : Nat} (h : s.top ≤ e) (k : String) (x : Option String) :
    TSpec.legal W s (Ghost.wop e k x) := by cases x <;> exact h

theorem applyS_eq_some {n n' : Node} {e st : Nat} {tb k : String} {v : Option String} :
    n.applyS e tb st k v = some n' ↔ st = e ∧
      ((∃ i t', tb = i.name ∧ (n.t i).step W (Ghost.wop e k v) = some t' ∧ n' = n.setT i t') ∨
       (∃ i x, tb = i.name ∧ v = some x ∧ hexVal k = e ∧ n' = n.setB i ((n.b i).set e x))) := by
  unfold applyS
  by_cases hst : st = e
  · subst hst
    simp only [ne_eq, not_true_eq_false, if_false, true_and]
    cases hT : TId.ofName tb with
    | some i =>
      -- a versioned table: `set` or `unset`, i.e. the table-API call `Ghost.wop`
      refine (show _ ↔ ((n.t i).step W (Ghost.wop st k v)).map (n.setT i) = some n' by
        cases v <;> exact Iff.rfl).trans ?_
      rw [Option.map_eq_some_iff]
      constructor
      · rintro ⟨t', h1, rfl⟩
        exact .inl ⟨i, t', TId.ofName_eq_some.mp hT, h1, rfl⟩
      · rintro (⟨j, t', hj, h1, rfl⟩ | ⟨j, x, hj, _⟩)
        · obtain rfl : i = j := Option.some.inj (hT.symm.trans (TId.ofName_eq_some.mpr hj))
          exact ⟨t', h1, rfl⟩
        · rw [hj, TId.ofName_bname] at hT; cases hT
    | none =>
      simp only []
      constructor
      · intro h
        split at h
        · rename_i i x hB
          split at h
          · rename_i hk
            cases h
            exact .inr ⟨i, x, BId.ofName_eq_some.mp hB, rfl, hk, by rw [hk]⟩
          · cases h
        · cases h
      · rintro (⟨j, t', hj, _⟩ | ⟨j, x, hj, rfl, hk, rfl⟩)
        · rw [TId.ofName_eq_some.mpr hj] at hT; cases hT
        · rw [BId.ofName_eq_some.mpr hj]; simp only [hk, if_true]
  · simp [hst]

/-- Each step knows the event it comes from (`∈ evs`), so that what a call checked of its events (`noBlockWrites`,
`poolOnly`, `finOnly`, ...) can be used. -/
theorem applyEvents_induction {e : Nat} {evs : List Ev} {motive : Node → Ghost → Prop}
    (write : ∀ n G i k v t', motive n G → .s i.name e k v ∈ evs → (n.t i).step W (Ghost.wop e k v) = some t' →
      motive (n.setT i t') (G.upd i (Ghost.wop e k v)))
    (row : ∀ n G (i : BId) k x, motive n G → .s i.name e k (some x) ∈ evs → hexVal k = e →
      motive (n.setB i ((n.b i).set e x)) G)
    {n n' : Node} {G : Ghost} (ha : applyEvents n e evs = some n') (h0 : motive n G) : motive n' (G.events evs) := by
  suffices ∀ l, (∀ ev ∈ l, ev ∈ evs) → ∀ n G, applyEvents n e l = some n' → motive n G → motive n' (G.events l) from
    this evs (fun _ h => h) n G ha h0
  intro l
  induction l with
  | nil => intro _ n G ha h0; cases ha; exact h0
  | cons ev rest ih =>
    intro hsub n G ha h0
    have hrest : ∀ ev ∈ rest, ev ∈ evs := fun ev h => hsub ev (List.mem_cons_of_mem _ h)
    cases ev with
    | s tb st k v =>
      simp only [applyEvents] at ha
      split at ha
      · rename_i n1 h1
        have hm := hsub _ List.mem_cons_self
        obtain ⟨rfl, ⟨i, t', rfl, ht, rfl⟩ | ⟨i, x, rfl, rfl, hk, rfl⟩⟩ := applyS_eq_some.mp h1
        · have hG : G.applyS i.name st k v = G.upd i (Ghost.wop st k v) := by
            simp only [Ghost.applyS, TId.ofName_eq_some.mpr rfl]
          simp only [Ghost.events, hG]
          exact ih hrest _ _ ha (write n G i k v t' h0 hm ht)
        · have hG : G.applyS i.name st k (some x) = G := by simp only [Ghost.applyS, TId.ofName_bname]
          simp only [Ghost.events, hG]
          exact ih hrest _ _ ha (row n G i k x h0 hm hk)
      · cases ha
    | x kind fs okRun succ gas logs => exact ih hrest n G ha h0
    | other => exact ih hrest n G ha h0

theorem applyEvents_induction' {e : Nat} {evs : List Ev} {motive : Node → Prop}
    (write : ∀ n i k v t', motive n → .s i.name e k v ∈ evs → (n.t i).step W (Ghost.wop e k v) = some t' →
      motive (n.setT i t'))
    (row : ∀ n (i : BId) k x, motive n → .s i.name e k (some x) ∈ evs → hexVal k = e →
      motive (n.setB i ((n.b i).set e x)))
    {n n' : Node} (ha : applyEvents n e evs = some n') (h0 : motive n) : motive n' :=
  applyEvents_induction (G := Ghost.init) (motive := fun n _ => motive n) (fun n _ => write n) (fun n _ => row n) ha h0

theorem applyEvents_table {i : TId} {e : Nat} {evs : List Ev} {motive : Table String String → Prop}
    (write : ∀ t k v t', motive t → .s i.name e k v ∈ evs → t.step W (Ghost.wop e k v) = some t' → motive t')
    {n n' : Node} (ha : applyEvents n e evs = some n') (h0 : motive (n.t i)) : motive (n'.t i) :=
  applyEvents_induction' (motive := fun n => motive (n.t i))
    (fun n j k v t' h hm ht => by
      show motive (if i = j then t' else n.t i)
      split
      · rename_i hij; subst hij; exact write _ k v t' h hm ht
      · exact h)
    (fun _ _ _ _ h _ _ => h) ha h0

theorem applyEvents_fields {n n' : Node} {expect : Nat} {evs : List Ev}
    (h : applyEvents n expect evs = some n') :
    n'.lbi = n.lbi ∧ n'.latest = n.latest ∧ n'.maxBlock = n.maxBlock :=
  applyEvents_induction' (motive := fun m => m.lbi = n.lbi ∧ m.latest = n.latest ∧ m.maxBlock = n.maxBlock)
    (fun _ _ _ _ _ hm _ _ => hm) (fun _ _ _ _ hm _ _ => hm) h ⟨rfl, rfl, rfl⟩

end Node
end Brc20
