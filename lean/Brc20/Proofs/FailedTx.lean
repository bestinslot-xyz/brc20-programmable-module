/-
A failed transaction changes no state (C16). The recorded writes of a call that passes `Node.failedTxOk`
(Model/FailedTx.lean) and whose single run failed leave the EVM state tables as they were, except the caller's and the
coinbase's account rows: `failedTx_frame`, by the frame lemma `applyEvents_table_frame` of Proofs/ReachProps.lean.
-/
import Brc20.Model.FailedTx
import Brc20.Proofs.ReachProps

namespace Brc20
namespace Node

theorem harmlessWrite_s {n : Node} {c tb k : String} {st : Nat} {v : Option String}
    (h : harmlessWrite n c (.s tb st k v) = true) :
    tb ≠ TId.accountMemory.name ∧ tb ≠ TId.code.name ∧ (tb = TId.account.name → k = c ∨ k = zeroAddr) := by
  simp only [harmlessWrite] at h
  split at h
  · cases h
  · next h1 =>
    simp only [Bool.or_eq_true, beq_iff_eq, not_or] at h1
    refine ⟨h1.1, h1.2, fun ht => ?_⟩
    simp only [ht, beq_self_eq_true, if_true, Bool.or_eq_true, Bool.and_eq_true, beq_iff_eq] at h
    exact h.imp id And.left

theorem failedTx_frame {n n' : Node} {e : Nat} {evs : List Ev} {fs : List (String × String)} {okRun : Bool}
    {gas logs : Nat} (hr : txRuns evs = [(fs, okRun, false, gas, logs)]) (hok : failedTxOk n evs = true)
    (ha : applyEvents n e evs = some n') (i : TId) (key : String)
    (hi : i = .accountMemory ∨ i = .code ∨ (i = .account ∧ key ≠ field fs "caller" ∧ key ≠ zeroAddr)) :
    (n'.t i).latest key = (n.t i).latest key := by
  unfold failedTxOk at hok
  rw [hr] at hok
  refine applyEvents_table_frame i ha (fun st k v hm hkey => ?_)
  obtain ⟨h1, h2, h3⟩ := harmlessWrite_s (List.all_eq_true.mp hok _ hm)
  subst hkey
  rcases hi with rfl | rfl | ⟨rfl, hc, hz⟩
  · exact h1 rfl
  · exact h2 rfl
  · exact (h3 rfl).elim hc hz

end Node
end Brc20
