/-
C06 - Blocks, transactions, receipts, logs and inscription indexes are coherent.

Model-level part: heights are contiguous, the hash <-> number rows are written together and invert each other,
the per-block counters (transaction count, cumulative gas, log index) are running sums.  The content of rows
(receipts, blooms, merkle roots, raw encodings) is opaque to the model and checked on the real code by the
coherence oracle of suite E at every block boundary.
-/
import Brc20.Model.Node
import Brc20.Proofs.Node
import Brc20.Proofs.ReachProps
import Brc20.Proofs.Scenario

namespace Brc20
open Node

/-- An accepted finalise creates exactly the next height: the hash row, both block rows and the hash index exist
for it, and the next height advances by one. -/
theorem C06.finalise_creates_next_height (n : Node) (ts : Nat) (h : String) (count : Nat) (evs : List Ev)
    (hok : (n.finaliseOne ts h count evs).2 = .ok) :
    let n' := (n.finaliseOne ts h count evs).1
    n'.blockHashAt n.nextHeight = some (normHash h n.nextHeight) ∧
    n'.blockNumberOf (normHash h n.nextHeight) = some (hexN 16 n.nextHeight) ∧
    ((n'.b .block).get n.nextHeight).isSome ∧ ((n'.b .rawBlock).get n.nextHeight).isSome ∧
    n'.lbi = {} := by
  obtain ⟨_, n', f, hn⟩ := finaliseOne_accepted hok
  simp only [hn]
  exact ⟨f.hashRow, f.hashIndex, f.blockRow, f.rawRow, rfl⟩

/-- A finalise is only accepted with the exact number of transactions appended to the block. -/
theorem C06.finalise_count_exact (n : Node) (ts : Nat) (h : String) (count : Nat) (evs : List Ev)
    (hok : (n.finaliseOne ts h count evs).2 = .ok) : count = n.lbi.waiting :=
  (validateNextTx_eq_none.mp (finaliseOne_accepted hok).1).1.symm

/-- Transaction indexes are consecutive: an accepted call appends at index `waiting` and advances the count by the
number of runs. -/
theorem C06.indexes_consecutive (n : Node) (ts : Nat) (h : String) (idx : Nat) (txid : Option String) (evs : List Ev)
    (k : Option Nat) (hok : (n.addTxs ts h idx txid evs k).2 = .ok) :
    idx = n.lbi.waiting ∧ (n.addTxs ts h idx txid evs k).1.lbi.waiting = n.lbi.waiting + (txRuns evs).length := by
  obtain ⟨hv, n', _, hn⟩ := addTxs_accepted hok
  refine ⟨(validateNextTx_eq_none.mp hv).1.symm, ?_⟩
  rw [hn]
  simp only [bumpLbi_waiting, startLbi_waiting]

/-- The log index of the block is a running sum of the logs of accepted runs, and never decreases. -/
theorem C06.log_index_running_sum (l : Lbi) (runs : List (List (String × String) × Bool × Bool × Nat × Nat)) :
    (bumpLbi l runs).logIndex = l.logIndex + (runs.map (fun r => if r.2.1 then r.2.2.2.2 else 0)).sum ∧
    (bumpLbi l runs).waiting = l.waiting + runs.length :=
  ⟨bumpLbi_logIndex l runs, bumpLbi_waiting l runs⟩

/-- Cumulative gas is the running sum of the gas of accepted runs as long as it fits in 64 bits. -/
theorem C06.gas_running_sum (l : Lbi) (runs : List (List (String × String) × Bool × Bool × Nat × Nat))
    (hfit : l.gasUsed + (runs.map (fun r => if r.2.1 then r.2.2.2.1 else 0)).sum ≤ U64MAX) :
    (bumpLbi l runs).gasUsed = l.gasUsed + (runs.map (fun r => if r.2.1 then r.2.2.2.1 else 0)).sum :=
  bumpLbi_gasUsed l runs hfit

/-! ## Heights on every reachable state (`Node.Reach`, Proofs/Ops.lean) -/

/-- **Heights are contiguous on every reachable node.**
  1. the rows of the block-number -> hash table are gap-free: every number up to the newest row has a row;
  2. every number below the next height has a hash row, and no hash row lies above the next height;
  3. at a block boundary the hash rows are exactly the numbers below the next height, and both heights are read off
     the newest row;
  4. the next height is the current height plus one, except on an empty database (both are 0);
  5. the tip block (the in-memory height and hash) has its hash row - with that hash - and both block rows. -/
theorem C06.heights_contiguous_reachable (n : Node) (hr : Reach n) :
    (∀ e, (n.b .numberToHash).lastKey = some e → ∀ k, k ≤ e → (n.b .numberToHash).get k ≠ none) ∧
    ((∀ k, k < n.nextHeight → (n.b .numberToHash).get k ≠ none) ∧
     (∀ k, (n.b .numberToHash).get k ≠ none → k ≤ n.nextHeight)) ∧
    (n.lbi.waiting = 0 →
      (∀ k, (n.b .numberToHash).get k ≠ none ↔ k < n.nextHeight) ∧
      n.latestHeight = ((n.b .numberToHash).lastKey).getD 0 ∧
      n.nextHeight = (match (n.b .numberToHash).lastKey with | some k => k + 1 | none => 0)) ∧
    (n.nextHeight = n.latestHeight + 1 ∨
      (n.nextHeight = 0 ∧ n.latestHeight = 0 ∧ ∀ k, (n.b .numberToHash).get k = none)) ∧
    (∀ h x, n.latest = some (h, x) →
      n.blockHashAt h = some x ∧ (n.b .block).get h ≠ none ∧ (n.b .rawBlock).get h ≠ none) := by
  obtain ⟨G, hG⟩ := hr.inv
  have hh := hr.hinv
  have hrows := hr.block_rows.1 .numberToHash
  refine ⟨hG.core.contig, ⟨fun k => (hrows k).mpr, hh.rows_next⟩, fun _ => ⟨hrows, hr.heights.1, ?_⟩, ?_, hh.tip⟩
  · rw [hr.heights.2]
    cases (n.b .numberToHash).lastKey <;> rfl
  · have hp := latestHeight_eq_pred n
    by_cases h0 : n.nextHeight = 0
    · exact Or.inr ⟨h0, by omega, fun k => Decidable.not_not.mp fun hne => by have := (hrows k).mp hne; omega⟩
    · exact Or.inl (by omega)

/-- **The three block tables on every reachable node**: every row of the block table and of the raw-block table has
a hash row of the same number - except, while a block is under construction, possibly a row of the number being
built. At a block boundary every row of the three tables lies below the next height and has a hash row.
(`C06.block_tables_move_together_reachable` gives equality of the three row sets, mid-block included.) -/
theorem C06.block_rows_have_hash_row_reachable (n : Node) (hr : Reach n) :
    (∀ i k, (n.b i).get k ≠ none →
      (n.b .numberToHash).get k ≠ none ∨ (k = n.nextHeight ∧ n.lbi.waiting ≠ 0)) ∧
    (n.lbi.waiting = 0 → ∀ i k, (n.b i).get k ≠ none → k < n.nextHeight ∧ (n.b .numberToHash).get k ≠ none) := by
  have hs := hr.sinv
  refine ⟨hs.sub, ?_⟩
  intro hw i k hk
  rcases hs.sub i k hk with h1 | h1
  · exact ⟨hr.hinv.rows_bdry hw k h1, h1⟩
  · exact absurd hw h1.2

/-- **The three block tables move together, on every reachable node.** For the block table, the raw-block table and
the block-number -> hash table alike:
  1. there is a row for exactly the numbers below the height being built - `0 … latestHeight` on a non-empty
     database, gap-free, the same numbers in the three tables;
  2. this holds mid-block as well as at a block boundary: a call that adds transactions writes no block-table row, so
     the block under construction has no row in any of the three tables until its finalise writes all three;
  3. the next height is the current height plus one, except on an empty database (both are 0, no rows);
  4. the persistent columns (what a `clear` / restart keeps) hold rows for exactly the numbers below the height the
     restart continues at - again the same numbers in the three tables.
(The model refuses recorded block-table writes in a call that adds transactions, and a finalise may write the rows of
its own block only; without these two checks the statement is false in the model, see the example below.) -/
theorem C06.block_tables_move_together_reachable (n : Node) (hr : Reach n) :
    (∀ i k, (n.b i).get k ≠ none ↔ k < n.nextHeight) ∧
    (n.nextHeight = n.latestHeight + 1 ∨
      (n.nextHeight = 0 ∧ n.latestHeight = 0 ∧ ∀ i k, (n.b i).get k = none)) ∧
    (∀ i k, (n.b i).clear.get k ≠ none ↔ k < ((n.clear).1).nextHeight) := by
  obtain ⟨h1, h2⟩ := hr.block_rows
  refine ⟨h1, ?_, ?_⟩
  · rcases (C06.heights_contiguous_reachable n hr).2.2.2.1 with h | ⟨h3, h4, _⟩
    · exact Or.inl h
    · exact Or.inr ⟨h3, h4, fun i k => Decidable.not_not.mp fun hne => Nat.not_lt_zero k (h3 ▸ (h1 i k).mp hne)⟩
  · rw [clear_nextHeight]; exact h2

/-- the same at a block boundary, in terms of the current height: on a non-empty database the rows of each of the
three tables are exactly the numbers `0 … latestHeight` -/
theorem C06.block_tables_rows_upto_height (n : Node) (hr : Reach n) (hne : n.nextHeight ≠ 0) :
    ∀ i k, (n.b i).get k ≠ none ↔ k ≤ n.latestHeight := by
  obtain ⟨h1, h2, _⟩ := C06.block_tables_move_together_reachable n hr
  intro i k
  rw [h1 i k]
  rcases h2 with h | ⟨h, _⟩
  · omega
  · exact absurd h hne

namespace C06.Example
open Node.Example

/-- the first transaction of block 0 on the empty node (explicit block hash `abcd`); its recorded writes contain a
`block_number_to_hash` row for the block under construction -/
def evTx0 : List Ev :=
  [ .x "tx" [("number", "0"), ("ts", "100"), ("prevrandao", "abcd"), ("basefee", "0"), ("gasprice", "0"),
             ("value", "0"), ("coinbase", addr0), ("txid", "ab"), ("blockgaslimit", "18446744073709551615")] true true 21000 0,
    .s "account" 0 "aa" (some acct0),
    .s "block_number_to_hash" 0 "0000000000000000" (some "zz") ]

/-- **Why `addTxs` refuses recorded block-table writes** (`noBlockWrites`). Were the recorded `block_number_to_hash`
row accepted (the engine's `add_tx_to_block` issues none), a finalise at height 1 and a commit would give a reachable
node whose hash table has rows 0 and 1 while the block and raw-block tables have row 1 only. The call is refused
(`tx-wrote-block-table`), the node is left alone, and the same call without the block-table write is accepted. -/
example : (({} : Node).addTxs 100 "abcd" 0 (some "ab") evTx0 (some 1)).2 = .reject "tx-wrote-block-table" ∧
    (({} : Node).addTxs 100 "abcd" 0 (some "ab") evTx0 (some 1)).1.nextHeight = 0 ∧
    (({} : Node).addTxs 100 "abcd" 0 (some "ab") (evTx0.take 2) (some 1)).2 = .ok := by decide +kernel

/-- a finalise whose recorded writes contain a versioned-table write that `finalise_block` never issues (an `account`
row) is rejected too, and so is a hash-index row keyed by another hash -/
example : (final.1.finaliseOne 400 zeroHash 0
      [ .s "block_number_to_block" 3 "0000000000000003" (some "b3"),
        .s "block_number_to_raw_block" 3 "0000000000000003" (some "r3"),
        .s "account" 3 "aa" (some acct0),
        .s "block_number_to_hash" 3 "0000000000000003" (some (generatedHash 3)),
        .s "block_hash_to_number" 3 (generatedHash 3) (some (hexN 16 3)) ]).2 = .reject "fin-wrote" ∧
    (final.1.finaliseOne 400 zeroHash 0
      [ .s "block_number_to_block" 3 "0000000000000003" (some "b3"),
        .s "block_number_to_raw_block" 3 "0000000000000003" (some "r3"),
        .s "block_number_to_hash" 3 "0000000000000003" (some (generatedHash 3)),
        .s "block_hash_to_number" 3 (generatedHash 3) (some (hexN 16 3)),
        .s "block_hash_to_number" 3 (generatedHash 7) (some (hexN 16 3)) ]).2 = .reject "fin-wrote" ∧
    (final.1.finaliseOne 400 zeroHash 0
      [ .s "block_number_to_block" 3 "0000000000000003" (some "b3"),
        .s "block_number_to_raw_block" 3 "0000000000000003" (some "r3"),
        .s "account_and_nonce_to_tx_hash" 3 "aa0000000000000001" none,
        .s "block_number_to_hash" 3 "0000000000000003" (some (generatedHash 3)),
        .s "block_hash_to_number" 3 (generatedHash 3) (some (hexN 16 3)) ]).2 = .ok := by
  rw [final_node]
  decide +kernel

/-- Non-vacuity of `C06.block_tables_move_together_reachable` on the node of `Node.Example` (height 2, committed) and
mid-block on the node of its first three calls (block 1 under construction): rows 0, 1, 2 resp. row 0 in each of the
three tables. -/
example : (∀ i k, (final.1.b i).get k ≠ none ↔ k < 3) ∧
    (∀ i k, ((runOps (ops.take 3) ({}, Ghost.init)).1.b i).get k ≠ none ↔ k < 1) ∧
    (runOps (ops.take 3) ({}, Ghost.init)).1.lbi.waiting = 1 := by
  have hr := reachG_runOps (p := ({}, Ghost.init)) (ops.take 3) ReachG.init (okRun_take 3 ops_ok) (by decide)
  -- rewriting the two numerals in the whole goal would also rewrite the `3` of `ops.take 3`
  refine ⟨fun i k => ?_, fun i k => ?_, three_calls.2⟩
  · rw [← final_nextHeight]
    exact (C06.block_tables_move_together_reachable final.1 final_reach.reach).1 i k
  · rw [← three_calls.1]
    exact (C06.block_tables_move_together_reachable _ hr.reach).1 i k

/-- Non-vacuity of `C06.heights_contiguous_reachable` on the node of `Node.Example` (height 2, committed). -/
example : (∀ k, (final.1.b .numberToHash).get k ≠ none ↔ k < 3) ∧ final.1.latestHeight = 2 := by
  obtain ⟨_, _, h3, _, _⟩ := C06.heights_contiguous_reachable final.1 final_reach.reach
  rw [← final_nextHeight]
  exact ⟨(h3 final_height.2.2).1, final_height.1⟩

end C06.Example

end Brc20
