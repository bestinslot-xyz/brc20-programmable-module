/-
C04 - A crash at any write can be recovered exactly by a reorg to a durable height.

Crash = a prefix of the persistent writes of a commit (`Table.crashCommit`: the first `i` writes, then the cache is
gone) followed by a reopen.  RocksDB is the parameter: each put / delete is atomic and survives the death of the
process once issued.  The theorems hold for every table separately; the engine commits its tables one after the
other, so a crash inside `commit_changes` / `reorg` leaves every table either untouched, complete, or cut at one
write index - each case is covered.  The theorems rely on the write order of `Table.keyWrites` (`C04.write_order`:
the value row before the deletion of an old history row; finding F18); `Table.crash_in_reorg_scenario_recovers` is the
schedule of that finding.
For every reachable engine state the side conditions of the engine-level theorems are derived (last section).
Not covered: OS / power-loss durability of un-synced WAL data, torn RocksDB internals.
-/
import Brc20.Proofs.Crash
import Brc20.Proofs.NodeCrash
import Brc20.Proofs.ReachCrash
import Brc20.Gen.Tables

namespace Brc20
open Table

section
variable {K V : Type} [DecidableEq K] [DecidableEq V]

/-- **Crash inside a commit.** For every state reachable from an empty table by a legal history, every commit block
`b`, every write index `i` and every rollback target `n` that is inside the window and durable (nothing written
since the last completed commit is visible at `n`): reopen + `reorg n` does not panic and every key reads exactly
the value it had at the end of block `n`. -/
theorem C04.crash_in_commit_recoverable {W : Nat} (ops : List (TOp K V))
    (hl : TSpec.legalRun W (TSpec.init : TSpec K V) ops) :
    ∃ t, (Table.empty : Table K V).run W ops = some t ∧
      ∀ b i n, ((TSpec.init : TSpec K V).run ops).maxEver ≤ n + W →
        b ≤ n + W + 1 →
        (∀ k, (((TSpec.init : TSpec K V).run ops).cur k).valAt n = (((TSpec.init : TSpec K V).run ops).dur k).valAt n) →
        ∃ t', (t.crashCommit W b i).reorg W n = some t' ∧
          ∀ k, t'.latest k = ((TSpec.init : TSpec K V).run ops).readAt k n := by
  obtain ⟨t, e, hs⟩ := run_sim (sim_init W) ops hl
  exact ⟨t, e, fun b i n hw hb hdur => crash_recoverable_of_sim hs b i n hw hb hdur⟩

/-- **Crash inside a reorg** (in the commit that ends `reorg m`, at any write index): a later `reorg n` with `n ≤ m`,
inside the window and durable, repairs it. -/
theorem C04.crash_in_reorg_recoverable {W : Nat} (ops : List (TOp K V))
    (hl : TSpec.legalRun W (TSpec.init : TSpec K V) ops) :
    ∃ t, (Table.empty : Table K V).run W ops = some t ∧
      ∀ m n, m ≤ ((TSpec.init : TSpec K V).run ops).maxEver → n ≤ m →
        ((TSpec.init : TSpec K V).run ops).maxEver ≤ n + W →
        (∀ k, (((TSpec.init : TSpec K V).run ops).cur k).valAt n = (((TSpec.init : TSpec K V).run ops).dur k).valAt n) →
        ∃ tl, t.reorgLoad m t.reorgKeys = some tl ∧
          ∀ i, ∃ t', (tl.crashCommit W m i).reorg W n = some t' ∧
            ∀ k, t'.latest k = ((TSpec.init : TSpec K V).run ops).readAt k n := by
  obtain ⟨t, e, hs⟩ := run_sim (sim_init W) ops hl
  exact ⟨t, e, fun m n hm' hnm hw hdur => crash_in_reorg_recoverable_of_sim hs m n hnm (by omega) hw hdur⟩

/-- **Crash outside commit / reorg** (no write in flight): the reopened table reads its durable logs - only
uncommitted work is lost. -/
theorem C04.crash_outside_commit {W : Nat} {t : Table K V} {s : TSpec K V} (h : Sim W t s) (b : Nat) (k : K) :
    (t.crashCommit W b 0).latest k = (s.dur k).latest := by
  have e : t.crashCommit W b 0 = t.clear := rfl
  rw [e]; exact clear_reads_durable h k

/-- A crash after the last write is a completed commit followed by a reopen. -/
theorem C04.crash_after_commit {W : Nat} {t : Table K V} (b i : Nat) (hi : (t.commitWrites W b).length ≤ i) :
    t.crashCommit W b i = (t.commit W b).reopen :=
  crash_after_last_write b i hi

/-- The write order the proofs rely on: a kept history is written before the value row, an old history is deleted
only after the value row. -/
theorem C04.write_order (W b : Nat) (k : K) (h : Hist V) :
    keyWrites W b k h =
      (if h.isOld W b then [(match h.latest with | some v => Write.putDb k v | none => Write.delDb k), Write.delCdb k]
       else [Write.putCdb k h, (match h.latest with | some v => Write.putDb k v | none => Write.delDb k)]) := rfl

end

/-- The schedule of finding F18, `Table.cexOps` (a key written at blocks 5 and 17, then `reorg 16` crashing after its
first write, between the two writes of the key) recovers: after reopen and `reorg 16` the key reads its value of
block 16. -/
theorem C04.former_counterexample_recovers : True ∧
    (∃ tl, ((Table.empty : Table Nat Nat).run 10 Table.cexOps).bind (fun t => t.reorgLoad 16 t.reorgKeys) = some tl ∧
      ((tl.crashCommit 10 16 1).reorg 10 16).map (fun t => t.latest 0) = some (some 1)) := by
  refine ⟨trivial, ?_⟩
  decide

/-! ### The engine: all tables, one global write sequence

The engine commits its tables one after another (`commit_changes`: the three block tables, then the twelve versioned
tables), each table issuing its own writes in sequence.  `Node.crashCommitAt n j` = the first `j` writes of that
global sequence, then the process dies and the directory is reopened.  The theorems hold for ANY order of the tables
(`Node.crashCommitAtIn_eq_crashIdx`; the recovery theorems hold whatever the cut indices), so they do not depend on
the order being transcribed correctly. -/

open Node in
/-- A prefix of the global write sequence cuts every table at its own index: some tables complete, one partial, the
rest untouched. -/
theorem C04.engine_crash_is_per_table (n : Node) (j : Nat) :
    n.crashCommitAt j = n.crashIdx (n.ibOf j) (n.itOf j) := Node.crashCommitAt_eq_crashIdx n j

open Node in
/-- **Crash at any write of an engine commit.**  For a node whose tables refine plain logs `g`, every global write
index `j` and every target `n0` that is inside every table's window, durable in every table, whose hash row is
persisted, with all block rows of the pending commit above it and inside the engine's own acceptance tests: after the
crash and reopen, `brc20_reorg(n0)` is accepted and restores `n0` (spelt out at
`C04.engine_crash_in_commit_recoverable_reachable`). -/
theorem C04.engine_crash_in_commit_recoverable (n : Node) (g : TId → TSpec String String) (hs : NodeSim n g) (j n0 : Nat)
    (hw : ∀ i, (g i).maxEver ≤ n0 + W)
    (hdur : ∀ i k, ((g i).cur k).valAt n0 = ((g i).dur k).valAt n0)
    (habove : ∀ i, ∀ p ∈ (n.b i).cache, n0 < p.1)
    (hlat : ∀ h x, n.latest = some (h, x) → (n.b .numberToHash).lastKey = some h)
    (hrow : (n.b .numberToHash).db.get? n0 ≠ none)
    (hdeep : n.latestHeight ≤ n0 + W) (hmax : n.maxBlock.getD 0 ≤ W + n0) :
    ∃ r, (n.crashCommitAt j).reorg n0 = (r, .ok) ∧ RestoredAt n g n0 r ∧
      r.latestHeight = n0 ∧ r.nextHeight = n0 + 1 := by
  obtain ⟨hb, hkeys⟩ := depth_of_heights hlat hdeep
  rw [crashCommitAt_eq_crashIdx]
  exact crashIdx_reorg_ok n g hs _ _ n0 hw hb hdur habove hrow hkeys hmax

open Node in
/-- **Crash inside the table phase of `brc20_reorg(m)`** (at any write), then reopen and `brc20_reorg(n0)` with
`n0 ≤ m`: restored to `n0`. -/
theorem C04.engine_crash_in_reorg_recoverable (n : Node) (g : TId → TSpec String String) (hs : NodeSim n g)
    (m j n0 : Nat) (hnm : n0 ≤ m) (hmW : m ≤ n0 + W)
    (hw : ∀ i, (g i).maxEver ≤ n0 + W)
    (hdur : ∀ i k, ((g i).cur k).valAt n0 = ((g i).dur k).valAt n0)
    (hrow : (n.b .numberToHash).db.get? n0 ≠ none)
    (hkeys : ∀ k, (n.b .numberToHash).db.get? k ≠ none → k ≤ n0 + W) (hmax : n.maxBlock.getD 0 ≤ W + n0) :
    ∃ r, (n.crashReorgAt m j).reorg n0 = (r, .ok) ∧ RestoredAt n g n0 r ∧
      r.latestHeight = n0 ∧ r.nextHeight = n0 + 1 := by
  rw [crashReorgAt_eq_crashReorgIdx]
  exact crashReorgIdx_reorg_ok n g hs m _ _ n0 hnm hmW hw hdur (fun _ => partlyDeleted_refl m _) hrow hkeys hmax

open Node in
/-- The order in which the model's global write sequence walks the tables is the order of `commit_changes` in the
source (`Gen.*`, regenerated from it; indices into the declaration order). -/
theorem C04.commit_order_is_the_sources :
    commitOrderT = Gen.commitVersioned.filterMap (fun i => allTIds[i]?) ∧
    commitOrderB = Gen.commitBlock.filterMap (fun i => allBIds[i]?) ∧
    reorgOrderT = Gen.reorgVersioned.filterMap (fun i => allTIds[i]?) := by decide

/-! ### The engine, every reachable state

The theorems above assume `NodeSim n g` and the side conditions `hw hdur habove hlat hrow hdeep hmax`.  For every node
reachable by any sequence of calls (`Node.ReachG n G`: the empty node, then any operation with any arguments and any
recorded events the model answers `ok` / `err` to; `G.s i` the plain log of table `i`, `G.d i` that log as of the last
commit point) they are all DERIVED (Proofs/ReachCrash.lean), from
  * a block boundary (`commit` and `reorg` are refused otherwise),
  * `n0 < durNext`: block `n0` was persisted by a completed commit (`durNext` = the height a restart continues at,
    read off the persisted hash rows),
  * the engine's own depth test on the written-through `max_block_number` row,
  * the proviso of finding F10 for the two pending-pool tables (not needed with one block of slack in the depth test). -/

open Node in
/-- **The durability hypothesis holds on every reachable node** for every target below the durable height: nothing
written since the last commit point is visible there; every pending block row lies above it; its block rows are on
disk.  (`(G.s i).dur`, the table-level durable log, is `(G.d i).cur`, the node-level log as of the last commit.) -/
theorem C04.durable_below_durNext (n : Node) (G : Ghost) (hr : ReachG n G) (n0 : Nat) (hn0 : n0 < n.durNext) :
    (∀ i k, ((G.s i).cur k).valAt n0 = ((G.s i).dur k).valAt n0) ∧
    (∀ i, (G.s i).dur = (G.d i).cur) ∧
    (∀ i, ∀ p ∈ (n.b i).cache, n0 < p.1) ∧
    (∀ i, (n.b i).db.get? n0 ≠ none) ∧
    n.durNext ≤ n.nextHeight := by
  obtain ⟨h1, h2, h4⟩ := hr.crash_hyps hn0
  exact ⟨h1, fun i => (hr.inv.core.dur_coh i).1.symm, h2, h4, hr.dinv.dn_le⟩

open Node in
/-- **Crash at any write of an engine commit, every reachable state.**  After the crash at global write `j` (any
`j`) and the reopen, `brc20_reorg(n0)` is accepted and answers `ok`; every versioned table reads, for every key, its
value at the end of block `n0`; every block table holds exactly the persisted rows `≤ n0`; nothing is under
construction; the node stands at height `n0`. -/
theorem C04.engine_crash_in_commit_recoverable_reachable (n : Node) (G : Ghost) (hr : ReachG n G)
    (hw : n.lbi.waiting = 0) (j n0 : Nat) (hn0 : n0 < n.durNext) (hmax : n.maxBlock.getD 0 ≤ W + n0)
    (hpool : ∀ i, i ∈ poolTables → (G.s i).maxEver ≤ n0 + W) :
    ∃ r, (n.crashCommitAt j).reorg n0 = (r, .ok) ∧ RestoredAt n G.s n0 r ∧
      r.latestHeight = n0 ∧ r.nextHeight = n0 + 1 := by
  rw [crashCommitAt_eq_crashIdx]
  exact hr.crashIdx_reorg_ok hw _ _ n0 hn0 hmax hpool

open Node in
/-- The same with one block of slack in the depth test and no proviso on the pool tables. -/
theorem C04.engine_crash_in_commit_recoverable_reachable_slack (n : Node) (G : Ghost) (hr : ReachG n G)
    (hw : n.lbi.waiting = 0) (j n0 : Nat) (hn0 : n0 < n.durNext) (hmax : n.maxBlock.getD 0 < W + n0) :
    ∃ r, (n.crashCommitAt j).reorg n0 = (r, .ok) ∧ RestoredAt n G.s n0 r ∧
      r.latestHeight = n0 ∧ r.nextHeight = n0 + 1 :=
  C04.engine_crash_in_commit_recoverable_reachable n G hr hw j n0 hn0 (Nat.le_of_lt hmax) (hr.pool_of_slack hw hmax)

open Node in
/-- The same for any order in which the engine might commit its tables (each table once). -/
theorem C04.engine_crash_in_commit_recoverable_reachable_any_order (n : Node) (G : Ghost) (hr : ReachG n G)
    (hw : n.lbi.waiting = 0) (ob : List BId) (ot : List TId) (ndb : ob.Nodup) (ndt : ot.Nodup)
    (hob : ∀ i, i ∈ ob) (hot : ∀ i, i ∈ ot) (j n0 : Nat) (hn0 : n0 < n.durNext)
    (hmax : n.maxBlock.getD 0 ≤ W + n0) (hpool : ∀ i, i ∈ poolTables → (G.s i).maxEver ≤ n0 + W) :
    ∃ r, (n.crashCommitAtIn ob ot j).reorg n0 = (r, .ok) ∧ RestoredAt n G.s n0 r ∧
      r.latestHeight = n0 ∧ r.nextHeight = n0 + 1 := by
  rw [crashCommitAtIn_eq_crashIdx n ob ot ndb ndt hob hot]
  exact hr.crashIdx_reorg_ok hw _ _ n0 hn0 hmax hpool

open Node in
/-- **Crash inside an accepted `brc20_reorg(m)`, every reachable state**: at any write `j` of its table phase
(`crashReorgAt`), or at any write `j` of the commit that ends it (`n2.crashCommitAt`, `n2` = the node after the table
and block phases: `(n.reorg m).1 = n2.commitAll`).  Reopen and `brc20_reorg(n0)` for any durable `n0 ≤ m` inside the
depth test: restored to `n0`.  (Between the two lie the row deletions of the block phase, one persistent write each;
a death among them is covered by `Node.ReachG.crash_in_reorg_phases_recoverable`, which this statement does not
include.) -/
theorem C04.engine_crash_in_reorg_recoverable_reachable (n : Node) (G : Ghost) (hr : ReachG n G) (m : Nat)
    (hok : (n.reorg m).2 = .ok) (n0 : Nat) (hnm : n0 ≤ m) (hn0 : n0 < n.durNext)
    (hmax : n.maxBlock.getD 0 ≤ W + n0) (hpool : ∀ i, i ∈ poolTables → (G.s i).maxEver ≤ n0 + W) :
    (∀ j, ∃ r, (n.crashReorgAt m j).reorg n0 = (r, .ok) ∧ RestoredAt n G.s n0 r ∧
      r.latestHeight = n0 ∧ r.nextHeight = n0 + 1) ∧
    ∃ n2 : Node, (n.reorg m).1 = n2.commitAll ∧
      ∀ j, ∃ r, (n2.crashCommitAt j).reorg n0 = (r, .ok) ∧ RestoredAt n G.s n0 r ∧
        r.latestHeight = n0 ∧ r.nextHeight = n0 + 1 := by
  obtain ⟨hnr, n1, e1, e⟩ := reorg_ok n m hok
  obtain ⟨hw, hm, _, _⟩ := not_refused_iff.mp hnr
  -- `m ≤ latestHeight` (`hm`: not refused) `= nextHeight - 1 ≤ n0 + W` (block boundary, `hmax`)
  have hmW : m ≤ n0 + W := by
    have := (hr.depth_bdry hw hmax).1
    have := latestHeight_eq_pred n
    omega
  refine ⟨fun j => ?_, { n1 with b := fun i => (n1.b i).reorg m }, by rw [e], fun j => ?_⟩
  · rw [crashReorgAt_eq_crashReorgIdx]
    exact hr.crash_in_reorg_phases_recoverable hw m n0 hnm hmW hn0 hmax hpool _ _ (fun _ => partlyDeleted_refl m _)
  · rw [crashCommitAt_eq_crashIdx]
    exact hr.crash_in_reorg_commit_recoverable hw m n0 hnm hmW hn0 hmax hpool n1 e1 _ _

open Node in
/-- A crash with no write in flight is a reopen. -/
theorem C04.engine_crash_before_first_write (n : Node) : n.crashCommitAt 0 = n.reopen := rfl

open Node in
/-- **A crash outside commit / reorg loses only uncommitted work, every reachable state**: every table reads, for
every key, the log as of the last commit point; the block tables hold exactly the blocks below `durNext`, where the
node stands; nothing is under construction; the reopened node is reachable (with logs `G.clear`), so every theorem
about reachable nodes applies to it. -/
theorem C04.engine_crash_outside_commit_reachable (n : Node) (G : Ghost) (hr : ReachG n G) :
    (∀ i k, ((n.crashCommitAt 0).t i).latest k = (G.d i).read k) ∧
    (∀ i k, (G.d i).read k = ((G.s i).dur k).latest) ∧
    (∀ i k, ((n.crashCommitAt 0).b i).get k = (n.b i).db.get? k) ∧
    (∀ i k, ((n.crashCommitAt 0).b i).get k ≠ none ↔ k < n.durNext) ∧
    (n.crashCommitAt 0).nextHeight = n.durNext ∧ (n.crashCommitAt 0).lbi = {} ∧
    ReachG (n.crashCommitAt 0) G.clear :=
  hr.crash_outside_commit

/-- Non-vacuity: a concrete reachable node (genesis, commit, a parked transaction, a block with a call, a mined
block) to which the reachable-state theorems apply for every crash point; cut at write 12 its tables are torn
(`ReachCrashExample`: the node in Proofs/Scenario.lean, what a crash does to it in Proofs/ReachCrash.lean), and `reorg 0`
restores block 0. -/
theorem C04.reachable_example_recovers (j : Nat) :
    Node.ReachG ReachCrashExample.st.1 ReachCrashExample.st.2 ∧
    ∃ r, (ReachCrashExample.st.1.crashCommitAt j).reorg 0 = (r, .ok) ∧
      Node.RestoredAt ReachCrashExample.st.1 ReachCrashExample.st.2.s 0 r ∧ r.latestHeight = 0 ∧ r.nextHeight = 1 :=
  ⟨ReachCrashExample.st_reach, ReachCrashExample.recovers j⟩

end Brc20
