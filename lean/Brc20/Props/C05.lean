/-
C05 - A rejected indexer call changes nothing; the block protocol is enforced.

`Node` functions return the new node together with a response class; `.err k` is an error response.
(`.reject w` is not a response: it says the recorded events do not fit the model - a broken correspondence.)
-/
import Brc20.Model.Node
import Brc20.Proofs.Node
import Brc20.Proofs.ReachProps
import Brc20.Proofs.Scenario
import Brc20.Model.DriverE
import Brc20.Proofs.DriverE

namespace Brc20
open Node

/-! **Rejected = untouched**, for every entry point whose work is a single step. -/

theorem C05.addTxs_error_noop (n : Node) (ts : Nat) (h : String) (idx : Nat) (txid : Option String) (evs : List Ev)
    (k : Option Nat) (e : String) (he : (n.addTxs ts h idx txid evs k).2 = .err e) : (n.addTxs ts h idx txid evs k).1 = n :=
  addTxs_fst_of_ne_ok (he ▸ nofun)

theorem C05.addRawTx_error_noop (n : Node) (ts : Nat) (h : String) (idx : Nat) (txid : String) (d : RawDecode)
    (evs : List Ev) (e : String) (he : (n.addRawTx ts h idx txid d evs).2 = .err e) : (n.addRawTx ts h idx txid d evs).1 = n :=
  addRawTx_fst_of_ne_ok (he ▸ nofun)

theorem C05.finalise_error_noop (n : Node) (ts : Nat) (h : String) (count : Nat) (evs : List Ev) (e : String)
    (he : (n.finaliseOne ts h count evs).2 = .err e) : (n.finaliseOne ts h count evs).1 = n :=
  finaliseOne_fst_of_ne_ok (he ▸ nofun)

theorem C05.commit_error_noop (n : Node) (e : String) (he : n.commit.2 = .err e) : n.commit.1 = n := by
  by_cases hw : n.lbi.waiting = 0
  · rw [commit_of_boundary hw] at he; cases he
  · rw [commit_of_waiting hw]

theorem C05.reorg_error_noop (n : Node) (target : Nat) (e : String) (he : (n.reorg target).2 = .err e) :
    (n.reorg target).1 = n :=
  reorg_fst_of_ne_ok (he ▸ nofun)

/-! ### `brc20_initialise`: every error answer is a no-op

`initialise` runs the controller deployment (`addTxs`, transaction 0) and then the finalise of that block. An error of
the trailing finalise after an accepted deployment would leave the deployment in place. It cannot happen: the
deployment's recorded writes exclude the block tables and the hash index, so the protocol check the finalise makes
(`validateNextTx` with count 1, the same timestamp, the same hash, the same height) passes after an accepted
deployment. -/

theorem C05.fin_after_first_tx_no_error {n n1 : Node} {ts : Nat} {hash : String} {txid : Option String}
    {devs fevs : List Ev} (ha : n.addTxs ts hash 0 txid devs (some 1) = (n1, .ok))
    (hnorm : normHash hash n.nextHeight = hash)
    (hno : ∀ st k v, Ev.s TId.hashToNumber.name st k v ∉ devs) (e : String) :
    (n1.finaliseOne ts hash 1 fevs).2 ≠ .err e := by
  intro he
  obtain ⟨hv, n', acc, hn1⟩ := addTxs_accepted (show (n.addTxs ts hash 0 txid devs (some 1)).2 = .ok by rw [ha])
  have hfr := addTxs_block_frame n ts hash 0 txid devs (some 1)
  rw [ha] at hn1 hfr
  simp only [] at hn1 hfr
  rw [hnorm] at hv hn1
  obtain ⟨hw, _, hex⟩ := validateNextTx_eq_none.mp hv
  have hnh := nextHeight_congr hfr.1 hfr.2.1
  have hstart : startLbi n ts hash = { waiting := 0, ts := ts, hash := hash, gasUsed := 0, logIndex := 0 } := if_pos hw
  -- the finalise's protocol check passes: one transaction, same timestamp and hash, block still unknown
  have hv1 : n1.validateNextTx 1 (normHash hash n1.nextHeight) n1.nextHeight ts = none := by
    rw [hnh, hnorm]
    refine validateNextTx_eq_none.mpr ⟨?_, fun _ => ⟨?_, ?_⟩, ?_⟩
    · rw [hn1]; show (bumpLbi _ _).waiting = 1; rw [bumpLbi_waiting, acc.count 1 rfl, hstart]
    · rw [hn1]; show (bumpLbi _ _).ts = ts; rw [bumpLbi_ts, hstart]
    · rw [hn1]; show (bumpLbi _ _).hash = hash; rw [bumpLbi_hash, hstart]
    · rw [← hex]
      unfold blockExists blockHashAt blockNumberOf
      rw [hfr.1, show n1.t = n'.t by rw [hn1],
        applyEvents_table_frame .hashToNumber acc.applied (fun st k v hm => absurd hm (hno st k v))]
  rw [(finaliseOne_err he).1] at hv1
  cases hv1

/-- **A refused `initialise` changes nothing**, whatever the error. -/
theorem C05.initialise_error_noop (n : Node) (h : String) (ts height : Nat) (evs : List Ev) (e : String)
    (he : (n.initialise h ts height evs).2 = .err e) : (n.initialise h ts height evs).1 = n := by
  rcases initialise_cases n h ts height evs with h1 | ⟨rfl, hok, h1⟩
  · exact h1
  · rw [h1] at he
    exact absurd he (C05.fin_after_first_tx_no_error (Prod.ext rfl hok) (normHash_idem h n.nextHeight)
      (by intro st k v hm; simp [isFinEv] at hm) e)

/-- `brc20_initialise`: every error is raised before anything is executed (this needed the `fix:` that checks
the genesis height first) - unless the deployment or the finalise itself is refused by the block protocol. -/
theorem C05.initialise_early_errors_noop (n : Node) (h : String) (ts height : Nat) (evs : List Ev)
    (he : (n.initialise h ts height evs).2 = .err "genesis" ∨ (n.initialise h ts height evs).2 = .err "height") :
    (n.initialise h ts height evs).1 = n :=
  he.elim (C05.initialise_error_noop n h ts height evs _) (C05.initialise_error_noop n h ts height evs _)

/-- `brc20_mine` while a block is under construction is refused without effect. -/
theorem C05.mine_waiting_noop (n : Node) (count ts : Nat) (evs : List Ev) (hw : n.lbi.waiting ≠ 0) :
    n.mine count ts evs = (n, .err "waiting") :=
  if_pos hw

/-- `brc20_mine` when one of the hashes it would generate is already in use is refused without effect, before the first
block is finalised (the Rust used to finalise the blocks before the clash and then answer an error; fixed, F16). -/
theorem C05.mine_clash_noop (n : Node) (count ts : Nat) (evs : List Ev) (hw : n.lbi.waiting = 0)
    (hc : n.mineClash count = true) : n.mine count ts evs = (n, .err "exists") := by
  unfold mine
  rw [if_neg (by simpa using hw), if_pos hc]

/-! ### The block protocol -/

/-- A transaction index that is not the number of transactions already in the block is refused. -/
theorem C05.wrong_index_refused (n : Node) (ts : Nat) (h : String) (idx : Nat) (txid : Option String) (evs : List Ev)
    (k : Option Nat) (hi : n.lbi.waiting ≠ idx) : n.addTxs ts h idx txid evs k = (n, .err "idx") :=
  addTxs_of_invalid (if_pos hi)

/-- Mid-block, a timestamp differing from the block under construction is refused. -/
theorem C05.wrong_timestamp_refused (n : Node) (ts : Nat) (h : String) (txid : Option String) (evs : List Ev)
    (k : Option Nat) (hw : n.lbi.waiting ≠ 0) (ht : n.lbi.ts ≠ ts) :
    n.addTxs ts h n.lbi.waiting txid evs k = (n, .err "ts") :=
  addTxs_of_invalid (by simp [validateNextTx, hw, ht])

/-- Mid-block, a block hash differing from the block under construction is refused. -/
theorem C05.wrong_hash_refused (n : Node) (h : String) (txid : Option String) (evs : List Ev) (k : Option Nat)
    (hw : n.lbi.waiting ≠ 0) (hh : n.lbi.hash ≠ normHash h n.nextHeight) :
    n.addTxs n.lbi.ts h n.lbi.waiting txid evs k = (n, .err "hash") :=
  addTxs_of_invalid (by simp [validateNextTx, hw, hh])

/-- A finalise with the wrong transaction count is refused. -/
theorem C05.wrong_count_refused (n : Node) (ts : Nat) (h : String) (count : Nat) (evs : List Ev)
    (hc : n.lbi.waiting ≠ count) : n.finaliseOne ts h count evs = (n, .err "idx") :=
  finaliseOne_of_invalid (if_pos hc)

/-- A block hash that already exists, or a height that already has a hash, is refused (first transaction of a
block and finalise alike). -/
theorem C05.existing_block_refused (n : Node) (ts : Nat) (h : String) (txid : Option String) (evs : List Ev) (k : Option Nat)
    (hw : n.lbi.waiting = 0) (hx : n.blockExists (normHash h n.nextHeight) n.nextHeight = true) :
    n.addTxs ts h 0 txid evs k = (n, .err "exists") ∧ n.finaliseOne ts h 0 evs = (n, .err "exists") :=
  have hv : n.validateNextTx 0 (normHash h n.nextHeight) n.nextHeight ts = some "exists" := by
    simp [validateNextTx, hw, hx]
  ⟨addTxs_of_invalid hv, finaliseOne_of_invalid hv⟩

/-- Commit and reorg while a block is under construction are refused. -/
theorem C05.commit_reorg_mid_block_refused (n : Node) (target : Nat) (hw : n.lbi.waiting ≠ 0) :
    n.commit = (n, .err "waiting") ∧ n.reorg target = (n, .err "waiting") :=
  ⟨commit_of_waiting hw, if_pos hw⟩

/-- Consequently a history with its rejected calls removed reaches the same node: a rejected step is the identity. -/
theorem C05.rejected_removable (f : Node → Node × Class) (n : Node) (e : String) (he : (f n).2 = .err e)
    (hn : ∀ m e', (f m).2 = .err e' → (f m).1 = m) : (f n).1 = n := hn n e he

/-! Non-vacuity: a node with one transaction in its block refuses index 0 and accepts nothing silently. -/
example : ({ lbi := { waiting := 1, ts := 5, hash := "aa" } } : Node).addTxs 5 "aa" 0 none [] none
    = ({ lbi := { waiting := 1, ts := 5, hash := "aa" } }, .err "idx") :=
  addTxs_of_invalid (if_pos Nat.one_ne_zero)

/-! ### `brc20_mine`: an error answer means nothing was mined

`mine` refuses while a block is under construction, then when one of the hashes / numbers of the blocks it is about
to create is in use (`mineClash`), then finalises the blocks one by one (`mineLoop`). The theorem says that the loop
cannot answer an error once the two pre-checks have passed, so that an error answer always leaves the node as it
was. It holds for every node (reachable or not) and every list of recorded events; the only condition is that the
block numbers of the call fit in 32 bytes (they are `u64`), so that the hashes generated for different blocks of the
call differ.

The engine's finalise writes exactly one hash-index row, keyed by the hash of the block being finalised
(`set_block_hash`), and the model refuses anything else (`finOnly`, reject `fin-wrote`). A model that accepted additional
`block_hash_to_number` rows would need the side condition `Node.MineHashDiscipline` on the recorded events: an
additional row keyed by the hash the next block is going to get makes the second finalise answer `err "exists"` after
the first block has been finalised (such an event list is rejected in the example below). -/

/-- **A refused `mine` changes nothing**, for every node and every list of recorded events. -/
theorem C05.mine_error_noop (n : Node) (count ts : Nat) (evs : List Ev) (hfit : n.nextHeight + count < 16 ^ 64)
    (e : String) (he : (n.mine count ts evs).2 = .err e) : (n.mine count ts evs).1 = n :=
  mine_err_noop_fit hfit he

/-- the same with the bound of the implementation: block numbers are `u64` -/
theorem C05.mine_error_noop_u64 (n : Node) (count ts : Nat) (evs : List Ev) (hfit : n.nextHeight + count ≤ 2 ^ 64)
    (e : String) (he : (n.mine count ts evs).2 = .err e) : (n.mine count ts evs).1 = n :=
  mine_err_noop_fit (Nat.lt_of_le_of_lt hfit (by decide)) he

/-- the loop itself: after the pre-checks, `mineLoop` answers `ok`, or stops on a panic / a model reject -/
theorem C05.mineLoop_never_errs_fit (n : Node) (count ts : Nat) (evs : List Ev) (hw : n.lbi.waiting = 0)
    (hc : n.mineClash count = false) (hfit : n.nextHeight + count < 16 ^ 64) (e : String) :
    (mineLoop n ts evs count).2 ≠ .err e :=
  mineLoop_not_err_fit ts evs count hw (mineClash_false hc) hfit e

/-- The conditional form: under `Node.MineHashDiscipline` instead of the arithmetic condition. -/
theorem C05.mine_error_noop_disciplined (n : Node) (count ts : Nat) (evs : List Ev) (hd : MineHashDiscipline n count evs)
    (e : String) (he : (n.mine count ts evs).2 = .err e) : (n.mine count ts evs).1 = n :=
  mine_err_noop hd he

/-- the loop itself, under the discipline instead of the arithmetic condition -/
theorem C05.mineLoop_never_errs (n : Node) (count ts : Nat) (evs : List Ev) (hw : n.lbi.waiting = 0)
    (hc : n.mineClash count = false) (hd : MineHashDiscipline n count evs) (e : String) :
    (mineLoop n ts evs count).2 ≠ .err e :=
  mineLoop_not_err ts evs count hw (mineClash_false hc) hd e

/-- mining a single block needs no condition at all -/
theorem C05.mine_one_error_noop (n : Node) (count ts : Nat) (evs : List Ev) (hc : count ≤ 1)
    (e : String) (he : (n.mine count ts evs).2 = .err e) : (n.mine count ts evs).1 = n := by
  apply mine_err_noop _ he
  intro st k v j _ h1 h2 h3
  omega

/-- the form with the recorded hash-index writes keyed by their own block's generated hash, through the discipline
(`C05.mine_error_noop` does without the first hypothesis) -/
theorem C05.mine_error_noop_own_hash (n : Node) (count ts : Nat) (evs : List Ev)
    (hown : ∀ st k v, Ev.s TId.hashToNumber.name st k v ∈ evs → k = generatedHash st)
    (hfit : n.nextHeight + count < 16 ^ 64)
    (e : String) (he : (n.mine count ts evs).2 = .err e) : (n.mine count ts evs).1 = n :=
  mine_err_noop (mineHashDiscipline_of_own_hash hown hfit) he

/-- **A refused call changes nothing, for every operation of the model**: the five single-step calls because they are
all-or-nothing, `initialise` and `mine` because their trailing steps cannot be refused by the block protocol. The only
side condition is the one of `C05.mine_error_noop`. -/
theorem Node.Op.error_noop (op : Op) (n : Node) {e : String} (he : (op.run n).2 = .err e)
    (hfit : ∀ count ts evs, op = .mine count ts evs → n.nextHeight + count < 16 ^ 64) : (op.run n).1 = n := by
  cases op with
  | initialise hash0 ts height evs => exact C05.initialise_error_noop n hash0 ts height evs e he
  | mine count ts evs => exact mine_err_noop_fit (hfit count ts evs rfl) he
  | addTxs ts hash0 idx txid evs k => exact C05.addTxs_error_noop n ts hash0 idx txid evs k e he
  | addRawTx ts hash0 idx txid dec evs => exact C05.addRawTx_error_noop n ts hash0 idx txid dec evs e he
  | finaliseOne ts hash0 count evs => exact C05.finalise_error_noop n ts hash0 count evs e he
  | commit => exact C05.commit_error_noop n e he
  | clear => cases he
  | reopen => cases he
  | reorg target => exact C05.reorg_error_noop n target e he

namespace C05.Example
open Node.Example

/-- two blocks mined on the empty node; the recorded writes of block 0 contain, besides the rows of block 0, a
hash-index row keyed by the hash block 1 is going to get -/
def evBad : List Ev :=
  [ .s "block_number_to_block" 0 "0000000000000000" (some "b0"),
    .s "block_number_to_raw_block" 0 "0000000000000000" (some "r0"),
    .s "block_number_to_hash" 0 "0000000000000000" (some h0),
    .s "block_hash_to_number" 0 h0 (some (hexN 16 0)),
    .s "block_hash_to_number" 0 h1 (some "ff") ]

/-- evaluated once for the two examples below (why: `Node.Example.ops_eval`) -/
theorem evBad_eval :
    ((({} : Node).mine 2 300 evBad).2 = .reject "fin-wrote" ∧ (({} : Node).mine 2 300 evBad).1.nextHeight = 0) ∧
    (({} : Node).mine 1 300 (evBad.take 4)).2 = .ok ∧ (({} : Node).mine 1 300 (evBad.take 4)).1.nextHeight = 1 := by
  decide +kernel

/-- **Why `finaliseOne` refuses a hash-index row keyed by another block's hash** (`finOnly`). This event list violates
`MineHashDiscipline`; were the finalise of block 0 accepted, `mine 2` would finalise block 0 and then answer
`err "exists"` on block 1: an error answer and a changed node. The finalise of block 0 is refused as not fitting the
engine (`fin-wrote`), nothing is finalised, and no error is answered. -/
example : (({} : Node).mine 2 300 evBad).2 = .reject "fin-wrote" ∧ ({} : Node).mineClash 2 = false ∧
    (({} : Node).mine 2 300 evBad).1.nextHeight = 0 ∧ ({} : Node).nextHeight = 0 ∧
    ¬ MineHashDiscipline {} 2 evBad := by
  refine ⟨evBad_eval.1.1, by decide, evBad_eval.1.2, by decide, ?_⟩
  intro h
  -- the last row of `evBad` is stamped 0 and keyed by `h1`, the hash generated for block 1
  exact h 0 h1 (some "ff") 1 (by simp [evBad, TId.name]) (by decide) (by decide) (by decide) rfl

/-- without the extra row the same writes are accepted: block 0 is mined -/
example : (({} : Node).mine 1 300 (evBad.take 4)).2 = .ok ∧ (({} : Node).mine 1 300 (evBad.take 4)).1.nextHeight = 1 :=
  evBad_eval.2

/-- block 3 submitted with an explicit hash: the one `mine` would generate for block 5 -/
def evFin3 : List Ev :=
  [ .s "block_number_to_block" 3 "0000000000000003" (some "b3"),
    .s "block_number_to_raw_block" 3 "0000000000000003" (some "r3"),
    .s "block_number_to_hash" 3 "0000000000000003" (some (generatedHash 5)),
    .s "block_hash_to_number" 3 (generatedHash 5) (some (hexN 16 3)) ]

def opsClash : List Op := ops ++ [.finaliseOne 350 (generatedHash 5) 0 evFin3]

def clash : Node × Ghost := runOps opsClash ({}, Ghost.init)

/-- the writes a `mine 2` would record on that node (block 4; block 5 is never reached) -/
def evMine4 : List Ev :=
  [ .s "block_number_to_block" 4 "0000000000000004" (some "b4"),
    .s "block_number_to_raw_block" 4 "0000000000000004" (some "r4"),
    .s "block_number_to_hash" 4 "0000000000000004" (some (generatedHash 4)),
    .s "block_hash_to_number" 4 (generatedHash 4) (some (hexN 16 4)) ]

theorem evMine4_own : ∀ st k v, Ev.s TId.hashToNumber.name st k v ∈ evMine4 → k = generatedHash st := by
  intro st k v hm
  simp [evMine4, TId.name] at hm
  rw [hm.1, hm.2.1]

/-- the run is the one of `Node.Example` with one more call: it goes on from `finalNode` -/
theorem clash_node : clash.1 = (finalNode.finaliseOne 350 (generatedHash 5) 0 evFin3).1 :=
  final_node ▸ runOps_concat_fst ops _ _

/-- that call and the two `mine` calls after it, evaluated once (the calls before it: `Node.Example.ops_eval`) -/
theorem clash_eval : okRun [.finaliseOne 350 (generatedHash 5) 0 evFin3] finalNode = true ∧ clash.1.lbi.waiting = 0 ∧
    clash.1.latestHeight = 3 ∧ clash.1.nextHeight = 4 ∧ (clash.1.mine 2 400 evMine4).2 = .err "exists" ∧
    (clash.1.mine 1 400 evMine4).2 = .ok := by
  rw [clash_node]
  decide +kernel

theorem clash_reach : ReachG clash.1 clash.2 := by
  rw [clash, opsClash, runOps_append]
  exact reachG_runOps (p := final) _ final_reach (by rw [final_node]; exact clash_eval.1) (by decide)

/-- Non-vacuity (the situation of finding F16): a reachable node at height 3 on which the hash generated for block
5 is in use. `mine 2` could finalise block 4 and would then clash on block 5; the pre-check answers `err "exists"`
and, by the theorem, the node is untouched. Mining one block is accepted. -/
example : Reach clash.1 ∧ clash.1.lbi.waiting = 0 ∧ clash.1.latestHeight = 3 ∧
    (clash.1.mine 2 400 evMine4).2 = .err "exists" ∧ (clash.1.mine 2 400 evMine4).1 = clash.1 ∧
    (clash.1.mine 1 400 evMine4).2 = .ok := by
  obtain ⟨_, h1, h2, h3, h4, h5⟩ := clash_eval
  exact ⟨clash_reach.reach, h1, h2, h4,
    C05.mine_error_noop clash.1 2 400 evMine4 (by rw [h3]; decide) "exists" h4, h5⟩

end C05.Example

/-! ### Whole histories

The statements above are about one call. The property speaks about histories: "every `brc20_*` call that returns an
error leaves the instance exactly as it was, so the history with the rejected calls removed produces identical
results". `DriverE.step` is the model's transition function on protocol lines (the function the compiled driver folds
over its input, and the one whose answers are compared with the real engine line by line); `DriverE.stepCore` is the
same function before the answer is printed (`DriverE.step n l = ((stepCore n l).1, showAnswer (stepCore n l).1
(stepCore n l).2)` by definition), so that "answered with an error" is `.inl (.err e)` and not a property of a text. -/

/-- **One line, any operation: an error answer leaves the node as it was**, for every node (reachable or not) and
every protocol line (any operation word, any arguments, any recorded events). The only side condition is the one of
`C05.mine_error_noop`, on `mine` lines alone; `init` lines need none (`C05.initialise_error_noop`). -/
theorem C05.step_error_noop (n : Node) (line : String) (e : String)
    (he : (DriverE.stepCore n line).2 = .inl (.err e))
    (hmine : DriverE.opOf line = "mine" → n.nextHeight + DriverE.numArg line "count" < 16 ^ 64) :
    (DriverE.stepCore n line).1 = n := by
  by_cases hop : DriverE.opOf line = "deploy" ∨ DriverE.opOf line = "call" ∨ DriverE.opOf line = "deposit" ∨
      DriverE.opOf line = "withdraw"
  · rw [DriverE.stepCore_tx n line hop] at he ⊢
    simp only [] at he ⊢
    split
    · rfl
    split
    · rfl
    split
    · rfl
    · rename_i h1 h2 h3
      rw [if_neg h1, if_neg h2, if_neg h3] at he
      exact addTxs_fst_of_ne_ok (Sum.inl.inj he ▸ nofun)
  -- Every other line is a text answer (`.inr`), a refusal before any call (node `n`), or one call `op.run n` of the
  -- model (`Op.error_noop`). The arms come in the order of the operation words in `stepCore`.
  have key : ∀ r, DriverE.stepCore n line = r → r.2 = .inl (.err e) → r.1 = n := by
    intro r hr
    unfold DriverE.opOf DriverE.numArg at hmine
    unfold DriverE.opOf at hop
    unfold DriverE.stepCore at hr
    extract_lets parts head evs ws f g num fin op dataFirst selErr pkErr dec at hr
    split at hr
    · subst hr; exact nofun  -- "case"
    · subst hr; exact fun h => (Op.initialise _ _ _ evs).error_noop n (Sum.inl.inj h) nofun  -- "init"
    · -- mine: `count = 0` at a block boundary is answered `ok` without a call
      rename_i hw
      subst hr
      simp only [fin]
      split
      · exact fun _ => rfl
      · exact fun h => mine_err_noop_fit (hmine hw) (Sum.inl.inj h)
    · rename_i hw; exact absurd (.inl hw) hop
    · rename_i hw; exact absurd (.inr (.inl hw)) hop
    · rename_i hw; exact absurd (.inr (.inr (.inl hw))) hop
    · rename_i hw; exact absurd (.inr (.inr (.inr hw))) hop
    · -- transact
      split at hr
      · subst hr; exact fun _ => rfl
      · subst hr; exact fun h => (Op.addRawTx _ _ _ _ dec evs).error_noop n (Sum.inl.inj h) nofun
    · subst hr; exact fun h => (Op.finaliseOne _ _ _ evs).error_noop n (Sum.inl.inj h) nofun  -- "fin"
    · subst hr; exact fun h => Op.commit.error_noop n (Sum.inl.inj h) nofun  -- "commit"
    · subst hr; exact fun h => Op.clear.error_noop n (Sum.inl.inj h) nofun  -- "clear"
    · subst hr; exact fun h => Op.reopen.error_noop n (Sum.inl.inj h) nofun  -- "reopen"
    · subst hr; exact fun h => (Op.reorg _).error_noop n (Sum.inl.inj h) nofun  -- "reorg"
    · subst hr; exact fun _ => rfl  -- "read"
    · subst hr; exact nofun  -- "logsq"
    · -- pbound
      split at hr
      · subst hr; exact nofun
      · subst hr; exact nofun
    · subst hr; exact nofun  -- any other word
  exact key _ rfl he

/-- the same on the function the driver runs, with the text of the answer: the error, then the digest of the
unchanged node -/
theorem C05.step_error_answer (n : Node) (line : String) (e : String)
    (he : (DriverE.stepCore n line).2 = .inl (.err e))
    (hmine : DriverE.opOf line = "mine" → n.nextHeight + DriverE.numArg line "count" < 16 ^ 64) :
    DriverE.step n line = (n, "err:" ++ e ++ " | " ++ DriverE.digest n) := by
  have hn := C05.step_error_noop n line e he hmine
  show ((DriverE.stepCore n line).1, DriverE.showAnswer (DriverE.stepCore n line).1 (DriverE.stepCore n line).2) = _
  rw [he, hn]
  rfl

/-- the line is answered with an error when the node is `n` -/
def DriverE.rejected (n : Node) (line : String) : Bool :=
  match (DriverE.stepCore n line).2 with
  | .inl (.err _) => true
  | _ => false

theorem DriverE.rejected_iff (n : Node) (line : String) :
    DriverE.rejected n line = true ↔ ∃ e, (DriverE.stepCore n line).2 = .inl (.err e) := by
  unfold DriverE.rejected
  split
  · rename_i e h; exact ⟨fun _ => ⟨e, h⟩, fun _ => rfl⟩
  · rename_i h
    exact ⟨fun x => (by cases x), fun ⟨e, he⟩ => absurd he (h e)⟩

/-- the side condition of `C05.mine_error_noop` along a history run from `n`: every *rejected* `mine` line asks for
block numbers that fit in 32 bytes (a Boolean, so that it can be evaluated on a concrete history) -/
def DriverE.covered : Node → List String → Bool
  | _, [] => true
  | n, l :: ls =>
    (!(DriverE.rejected n l && DriverE.opOf l == "mine") || decide (n.nextHeight + DriverE.numArg l "count" < 16 ^ 64))
      && DriverE.covered (DriverE.step n l).1 ls

/-- the sub-history of the lines that are not rejected when the history is run from `n` (the run goes on from the node
the full history reaches, whatever the rejected line did to it) -/
def DriverE.accepted : Node → List String → List String
  | _, [] => []
  | n, l :: ls =>
    if DriverE.rejected n l then DriverE.accepted (DriverE.step n l).1 ls
    else l :: DriverE.accepted (DriverE.step n l).1 ls

/-- the answers those lines get in the full history, in order -/
def DriverE.acceptedAnswers : Node → List String → List String
  | _, [] => []
  | n, l :: ls =>
    if DriverE.rejected n l then DriverE.acceptedAnswers (DriverE.step n l).1 ls
    else (DriverE.step n l).2 :: DriverE.acceptedAnswers (DriverE.step n l).1 ls

/-- whether each line of the history is rejected, in order -/
def DriverE.rejectedFlags : Node → List String → List Bool
  | _, [] => []
  | n, l :: ls => DriverE.rejected n l :: DriverE.rejectedFlags (DriverE.step n l).1 ls

theorem DriverE.covered_cons {n : Node} {l : String} {ls : List String} (hc : DriverE.covered n (l :: ls) = true) :
    (DriverE.rejected n l = true → (DriverE.step n l).1 = n) ∧ DriverE.covered (DriverE.step n l).1 ls = true := by
  simp only [DriverE.covered, Bool.and_eq_true, Bool.or_eq_true, Bool.not_eq_true', Bool.and_eq_false_iff,
    decide_eq_true_eq, beq_eq_false_iff_ne] at hc
  refine ⟨fun hr => ?_, hc.2⟩
  obtain ⟨e, he⟩ := (DriverE.rejected_iff n l).mp hr
  refine C05.step_error_noop n l e he fun hop => ?_
  rcases hc.1 with (h | h) | h
  · rw [hr] at h; cases h
  · exact absurd hop h
  · exact h

/-- **Rejected calls can be removed from any history**: for every node and every list of protocol lines, the history
with the rejected lines removed ends in the same node (hence the same digest and the same database contents after a
commit) and gives every remaining line the answer it gets in the full history. Side condition: `DriverE.covered`
(rejected `mine` lines only, see there). -/
theorem C05.history_rejected_removable (lines : List String) :
    ∀ n : Node, DriverE.covered n lines = true →
      (DriverE.run n (DriverE.accepted n lines)).1 = (DriverE.run n lines).1 ∧
      (DriverE.run n (DriverE.accepted n lines)).2 = DriverE.acceptedAnswers n lines := by
  induction lines with
  | nil => intro n _; exact ⟨rfl, rfl⟩
  | cons l ls ih =>
    intro n hc
    obtain ⟨hidle, hrest⟩ := DriverE.covered_cons hc
    by_cases hr : DriverE.rejected n l = true
    · simp only [DriverE.accepted, hr, if_true, DriverE.run, DriverE.acceptedAnswers]
      rw [hidle hr] at hrest ⊢
      exact ih n hrest
    · have hr' : DriverE.rejected n l = false := by simpa using hr
      simp only [DriverE.accepted, hr', Bool.false_eq_true, if_false, DriverE.run, DriverE.acceptedAnswers]
      have := ih (DriverE.step n l).1 hrest
      exact ⟨this.1, by rw [this.2]⟩

/-- the answers of the kept lines are the answers at the same positions of the full history -/
theorem C05.acceptedAnswers_eq_filter (lines : List String) :
    ∀ n : Node, DriverE.acceptedAnswers n lines =
      (((DriverE.rejectedFlags n lines).zip (DriverE.run n lines).2).filter (fun p => !p.1)).map (·.2) := by
  induction lines with
  | nil => intro n; rfl
  | cons l ls ih =>
    intro n
    by_cases hr : DriverE.rejected n l = true
    · simp only [DriverE.acceptedAnswers, hr, if_true, DriverE.run, DriverE.rejectedFlags, List.zip_cons_cons,
        List.filter_cons, Bool.not_true, Bool.false_eq_true, if_false]
      exact ih _
    · have hr' : DriverE.rejected n l = false := by simpa using hr
      simp only [DriverE.acceptedAnswers, hr', Bool.false_eq_true, if_false, DriverE.run, DriverE.rejectedFlags,
        List.zip_cons_cons, List.filter_cons, Bool.not_false, if_true, List.map_cons]
      rw [ih]

/-- and the kept lines are the lines at those positions -/
theorem C05.accepted_eq_filter (lines : List String) :
    ∀ n : Node, DriverE.accepted n lines =
      (((DriverE.rejectedFlags n lines).zip lines).filter (fun p => !p.1)).map (·.2) := by
  induction lines with
  | nil => intro n; rfl
  | cons l ls ih =>
    intro n
    by_cases hr : DriverE.rejected n l = true
    · simp only [DriverE.accepted, hr, if_true, DriverE.rejectedFlags, List.zip_cons_cons,
        List.filter_cons, Bool.not_true, Bool.false_eq_true, if_false]
      exact ih _
    · have hr' : DriverE.rejected n l = false := by simpa using hr
      simp only [DriverE.accepted, hr', Bool.false_eq_true, if_false, DriverE.rejectedFlags,
        List.zip_cons_cons, List.filter_cons, Bool.not_false, if_true, List.map_cons]
      rw [ih]

namespace C05.History

/-- the recorded writes of the finalise of block `k` with hash `h` -/
def blk (k : Nat) (h : String) : String :=
  " ## S block_number_to_block " ++ toString k ++ " " ++ hexN 16 k ++ " b" ++ toString k ++
  " ## S block_number_to_raw_block " ++ toString k ++ " " ++ hexN 16 k ++ " r" ++ toString k ++
  " ## S block_number_to_hash " ++ toString k ++ " " ++ hexN 16 k ++ " " ++ h ++
  " ## S block_hash_to_number " ++ toString k ++ " " ++ h ++ " " ++ hexN 16 k

/-- a history on the empty node with four rejected calls: a finalise with a wrong count, a reorg above the tip, a
`mine 2` whose second block would get a hash in use (finding F16), a `mine 1` whose block would get that hash -/
def hist : List String :=
  [ "fin ts=1 hash=0x00 count=3",
    "mine count=1 ts=300" ++ blk 0 (generatedHash 0),
    "reorg n=7",
    "fin ts=350 hash=0x" ++ generatedHash 2 ++ " count=0" ++ blk 1 (generatedHash 2),
    "mine count=2 ts=400" ++ blk 2 (generatedHash 2),
    "commit",
    "mine count=1 ts=400" ++ blk 2 (generatedHash 2) ]

-- non-vacuity (evaluated, a test: string functions do not reduce in the kernel): the side condition holds on this
-- history, four of its lines are rejected (two of them `mine` lines), three are kept; and the statement of the theorem
-- evaluated on it
#guard DriverE.covered {} hist = true
#guard DriverE.rejectedFlags {} hist = [true, false, true, false, true, false, true]
#guard ((DriverE.run {} hist).2.map (fun a => (a.splitOn " | ").headD "")) =
  ["err:idx", "ok", "err:above", "ok", "err:exists", "ok", "err:exists"]
#guard DriverE.accepted {} hist = [hist[1]!, hist[3]!, hist[5]!]
#guard (DriverE.run {} (DriverE.accepted {} hist)).2 = DriverE.acceptedAnswers {} hist
#guard DriverE.digest (DriverE.run {} (DriverE.accepted {} hist)).1 = DriverE.digest (DriverE.run {} hist).1
#guard (DriverE.run {} hist).1.nextHeight = 2

end C05.History

end Brc20
