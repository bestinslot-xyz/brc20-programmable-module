/-
C20 - A database only reopens under the configuration it was created with.

Model: `Model/Config.lean`, i.e. `validate_config_database` / `ConfigDatabase::validate` (src/global/database.rs) on
what is at `db_path`: nothing, a file, an empty directory, or a non-empty one with the rows of its `config` column
family.  A configuration is the four strings that are recorded; that their renderings are injective (equal strings,
equal settings) is taken for granted there.
Tie: `Gen/StartOrder.lean`, regenerated on every run - the order of the calls in `start()` and the keys that
`validate_config_database` checks and writes (`start_validates_first`, `four_keys_in_source`); suite F goes through
the public `start()`: the full creating x reopening matrix, tampered, partial (exactly one record missing), foreign,
file and empty directories.
-/
import Brc20.Model.Config
import Brc20.Proofs.AMap
import Brc20.Gen.Constants
import Brc20.Gen.StartOrder

namespace Brc20
open Config

private theorem rows_created (c : Cfg) :
    (writeRows [] c).get? kDb = some c.dbVersion ∧ (writeRows [] c).get? kProto = some c.protocolVersion ∧
    (writeRows [] c).get? kNet = some c.network ∧ (writeRows [] c).get? kTraces = some c.traces := by
  simp [writeRows, rowsOf, AMap.get?_insert, kDb, kProto, kNet, kTraces]

private theorem cfg_eq {c c' : Cfg} (e1 : c.dbVersion = c'.dbVersion) (e2 : c.protocolVersion = c'.protocolVersion)
    (e3 : c.network = c'.network) (e4 : c.traces = c'.traces) : c = c' := by
  cases c
  cases c'
  simp only [Cfg.mk.injEq]
  exact ⟨e1, e2, e3, e4⟩

theorem Config.validateKey_ok_iff (rows : AMap String String) (k v : String) :
    validateKey rows k v = .ok () ↔ rows.get? k = some v := by
  unfold validateKey
  cases rows.get? k with
  | none => simp
  | some v' => by_cases e : v' = v <;> simp [e]

theorem Config.validate_ok_iff (rows : AMap String String) (c : Cfg) (d : Dir) :
    validate (.dir true rows) c = .ok d ↔
      (rows.get? kDb = some c.dbVersion ∧ rows.get? kProto = some c.protocolVersion ∧
        rows.get? kNet = some c.network ∧ rows.get? kTraces = some c.traces) ∧ d = .dir true rows := by
  simp only [validate, ← validateKey_ok_iff]
  cases validateKey rows kDb c.dbVersion with
  | error e => simp
  | ok _ =>
  cases validateKey rows kProto c.protocolVersion with
  | error e => simp
  | ok _ =>
  cases validateKey rows kNet c.network with
  | error e => simp
  | ok _ =>
  cases validateKey rows kTraces c.traces with
  | error e => simp
  | ok _ => simp [eq_comm]

/-- A missing or empty directory is initialised with the four records of the creating configuration. -/
theorem C20.fresh_creates (c : Cfg) :
    validate .missing c = .ok (created c) ∧ validate (.dir false []) c = .ok (created c) :=
  ⟨rfl, rfl⟩

theorem C20.same_config_reopens_unchanged (c : Cfg) : validate (created c) c = .ok (created c) :=
  (validate_ok_iff ..).mpr ⟨rows_created c, rfl⟩

/-- **Reopen iff same**: a directory created under `c` reopens under `c'` exactly when all four recorded
settings coincide, and reopening leaves it unchanged. -/
theorem C20.reopen_iff_same (c c' : Cfg) :
    (∃ d, validate (created c) c' = .ok d) ↔ c' = c := by
  constructor
  · rintro ⟨d, hd⟩
    obtain ⟨h1, h2, h3, h4⟩ := rows_created c
    have a := ((validate_ok_iff ..).mp hd).1
    simp only [h1, h2, h3, h4, Option.some.injEq] at a
    exact (cfg_eq a.1 a.2.1 a.2.2.1 a.2.2.2).symm
  · rintro rfl
    exact ⟨_, C20.same_config_reopens_unchanged c'⟩

/-- Any single differing setting is reported as a mismatch (never served under different rules). -/
theorem C20.mismatch_fails (c c' : Cfg) (h : c' ≠ c) : ∃ k, validate (created c) c' = .error (.mismatch k) := by
  obtain ⟨h1, h2, h3, h4⟩ := rows_created c
  simp only [created, validate, validateKey, h1, h2, h3, h4]
  by_cases e1 : c.dbVersion = c'.dbVersion
  · by_cases e2 : c.protocolVersion = c'.protocolVersion
    · by_cases e3 : c.network = c'.network
      · by_cases e4 : c.traces = c'.traces
        · exact absurd (cfg_eq e1 e2 e3 e4).symm h
        · exact ⟨kTraces, by simp [e1, e2, e3, e4]⟩
      · exact ⟨kNet, by simp [e1, e2, e3]⟩
    · exact ⟨kProto, by simp [e1, e2]⟩
  · exact ⟨kDb, by simp [e1]⟩

/-- A non-empty directory that lacks any of the four records makes start-up fail (foreign or tampered). -/
theorem C20.foreign_dir_fails (rows : AMap String String) (c : Cfg)
    (h : rows.get? kDb = none ∨ rows.get? kProto = none ∨ rows.get? kNet = none ∨ rows.get? kTraces = none) :
    ∃ e, validate (.dir true rows) c = .error e := by
  cases hv : validate (.dir true rows) c with
  | error e => exact ⟨e, rfl⟩
  | ok d =>
    obtain ⟨⟨a1, a2, a3, a4⟩, -⟩ := (validate_ok_iff ..).mp hv
    simp [a1, a2, a3, a4] at h

/-- A path that is not a directory is refused. -/
theorem C20.not_a_directory (c : Cfg) : validate .file c = .error .notDirectory := rfl

/-- Acceptance never rewrites an existing non-empty directory. -/
theorem C20.accept_leaves_rows (rows : AMap String String) (c : Cfg) (d : Dir)
    (h : validate (.dir true rows) c = .ok d) : d = .dir true rows :=
  ((validate_ok_iff ..).mp h).2

/-- **Tie to the source** (regenerated on every run): `start()` validates the configuration database before it
opens the engine's database, and both happen before the RPC server starts. -/
theorem C20.start_validates_first :
    Gen.startOrder.idxOf "validate_config_database" < Gen.startOrder.idxOf "Brc20ProgDatabase::new" ∧
    Gen.startOrder.idxOf "Brc20ProgDatabase::new" < Gen.startOrder.idxOf "start_rpc_server" ∧
    "validate_config_database" ∈ Gen.startOrder ∧ "Brc20ProgDatabase::new" ∈ Gen.startOrder := by decide

/-- ... and `validate_config_database` checks all four keys, writes the same four on a fresh run. -/
theorem C20.four_keys_in_source :
    Gen.validatedKeys = ["DB_VERSION_KEY", "PROTOCOL_VERSION_KEY", "BITCOIN_RPC_NETWORK_KEY", "EVM_RECORD_TRACES_KEY"] ∧
    Gen.writtenKeys = ["DB_VERSION_KEY", "PROTOCOL_VERSION_KEY", "BITCOIN_RPC_NETWORK_KEY", "EVM_RECORD_TRACES_KEY"] :=
  ⟨rfl, rfl⟩

/-! Non-vacuity -/
example : ∃ k, validate (created ⟨"7", "2", "signet", "false"⟩) ⟨"7", "2", "mainnet", "false"⟩ = .error (.mismatch k) :=
  C20.mismatch_fails _ _ (by decide)

end Brc20
