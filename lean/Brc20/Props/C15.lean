/-
C15 - Inscription payload decoding is lossless, bounded and encoding-independent.

`decodePayload limit zdec` is the model of `decode_bytes_from_inscription_data`; zstd is the parameter `zdec`
with the stated contract (`ZstdOk`). The limit is the regenerated `CALLDATA_LIMIT`.
-/
import Brc20.Proofs.Payload
import Brc20.Model.DriverP
import Brc20.Gen.Constants

namespace Brc20
open Payload

/-- The limit the model driver uses is the one in the source. -/
theorem C15.limit_is_source_constant : DriverP.LIMIT = Gen.CALLDATA_LIMIT := by decide

/-- base64 without padding is lossless, for every byte string. -/
theorem C15.b64_roundtrip (x : Bytes) : b64Decode (b64Encode x) = some x := Payload.b64_roundtrip x

/-- nada is lossless, for every byte string (unbounded induction over the encoder state machine). -/
theorem C15.nada_roundtrip (x : Bytes) : nadaDecode (nadaEncode x) = some x := Payload.nada_roundtrip x

/-- Trailing `=` padding (any text after the first `=`) is ignored. -/
theorem C15.padding_ignored (limit : Nat) (zdec : Bytes → Option Bytes) (x : Bytes) (t : List Char) :
    decodePayload limit zdec (b64Encode x ++ '=' :: t) = decodePayload limit zdec (b64Encode x) := by
  unfold decodePayload
  rw [stripPad_append _ _ (b64Encode_no_pad x), stripPad_id _ (b64Encode_no_pad x)]
  simp [stripPad]

theorem decodePayload_encode (limit : Nat) (zdec : Bytes → Option Bytes) (p : UInt8) (body : Bytes) :
    decodePayload limit zdec (b64Encode (p :: body)) =
      if p = 0 then (if limit < body.length then none else some body)
      else if p = 1 then nadaDecodeLimit (limit + 1) body
      else if p = 2 then zdec body
      else none := by
  unfold decodePayload
  rw [stripPad_id _ (b64Encode_no_pad _), Payload.b64_roundtrip]

/-- Raw packing (prefix 0x00) round-trips for every payload up to and including the limit. -/
theorem C15.raw_roundtrip (limit : Nat) (zdec : Bytes → Option Bytes) (x : Bytes) (h : x.length ≤ limit) :
    decodePayload limit zdec (b64Encode (0 :: x)) = some x := by
  rw [decodePayload_encode, if_pos rfl, if_neg (by omega)]

/-- nada packing (prefix 0x01) round-trips for every payload up to and including the limit. -/
theorem C15.nada_payload_roundtrip (limit : Nat) (zdec : Bytes → Option Bytes) (x : Bytes) (h : x.length ≤ limit) :
    decodePayload limit zdec (b64Encode (1 :: nadaEncode x)) = some x := by
  rw [decodePayload_encode, if_neg (by decide), if_pos rfl]
  exact nada_limit_ok (limit + 1) _ _ (Payload.nada_roundtrip x) (by omega)

/-- zstd contract (parameter): what the decompressor returns fits the buffer, and it inverts the compressor. -/
structure ZstdOk (limit : Nat) (zenc : Bytes → Option Bytes) (zdec : Bytes → Option Bytes) : Prop where
  bounded : ∀ d y, zdec d = some y → y.length ≤ limit
  inverse : ∀ x z, x.length ≤ limit → zenc x = some z → zdec z = some x

/-- **Lossless**: whatever prefix the published encoder picks, its output decodes to the original bytes, with
any `=` padding appended, for every payload up to the limit. -/
theorem C15.payload_roundtrip (limit : Nat) (zenc zdec : Bytes → Option Bytes) (hz : ZstdOk limit zenc zdec)
    (x : Bytes) (h : x.length ≤ limit) (s : List Char) (hs : fromBytes (zenc x) x = some s) (pad : List Char) :
    decodePayload limit zdec (s ++ '=' :: pad) = some x ∧ decodePayload limit zdec s = some x := by
  -- the encoder's text is `b64Encode` of a prefixed body that decodes to `x`; padding is ignored on such text
  suffices h : ∃ y, s = b64Encode y ∧ decodePayload limit zdec (b64Encode y) = some x by
    obtain ⟨y, rfl, hy⟩ := h
    exact ⟨(C15.padding_ignored limit zdec y pad).trans hy, hy⟩
  unfold fromBytes at hs
  cases hzx : zenc x with
  | none => simp [hzx] at hs
  | some z =>
    simp only [hzx] at hs
    split at hs
    · exact ⟨_, (Option.some.inj hs).symm, C15.raw_roundtrip limit zdec x h⟩
    · split at hs
      · exact ⟨_, (Option.some.inj hs).symm, C15.nada_payload_roundtrip limit zdec x h⟩
      · refine ⟨_, (Option.some.inj hs).symm, ?_⟩
        rw [decodePayload_encode, if_neg (by decide), if_neg (by decide), if_pos rfl, hz.inverse x z h hzx]

/-- **Bounded**: no text, however small, decodes to more than `limit` bytes (decompression bombs included). -/
theorem C15.decode_bounded (limit : Nat) (zdec : Bytes → Option Bytes)
    (hz : ∀ d y, zdec d = some y → y.length ≤ limit) (s : List Char) (y : Bytes)
    (h : decodePayload limit zdec s = some y) : y.length ≤ limit := by
  unfold decodePayload at h
  split at h
  · cases h
  · cases h
  · next p body _ =>
    split at h
    · split at h
      · cases h
      · cases h
        omega
    · split at h
      · exact Nat.le_of_lt_succ (nada_limit_bounded (limit + 1) _ y h (Nat.succ_pos _))
      · split at h
        · exact hz _ _ h
        · cases h

/-- Unknown compression prefixes are refused. -/
theorem C15.unknown_prefix_none (limit : Nat) (zdec : Bytes → Option Bytes) (p : UInt8) (body : Bytes)
    (h0 : p ≠ 0) (h1 : p ≠ 1) (h2 : p ≠ 2) : decodePayload limit zdec (b64Encode (p :: body)) = none := by
  rw [decodePayload_encode, if_neg h0, if_neg h1, if_neg h2]

/-- The empty text and pure padding have no prefix byte: refused (the Rust used to panic here; fixed). -/
theorem C15.empty_refused (limit : Nat) (zdec : Bytes → Option Bytes) (t : List Char) :
    decodePayload limit zdec [] = none ∧ decodePayload limit zdec ('=' :: t) = none := by
  constructor <;> simp [decodePayload, stripPad, b64Decode]

/-- **Encoding independence at the field-selection level**: the hex field and the base64 field carrying the
packed form of the same bytes select the same bytes. -/
theorem C15.fields_agree (limit : Nat) (zenc zdec : Bytes → Option Bytes) (hz : ZstdOk limit zenc zdec)
    (x : Bytes) (h : x.length ≤ limit) (s : List Char) (hs : fromBytes (zenc x) x = some s) :
    selectBytes (some (some x)) none = selectBytes none (some (decodePayload limit zdec s)) := by
  rw [(C15.payload_roundtrip limit zenc zdec hz x h s hs []).2]
  rfl

/-- Exactly one of the two fields must be given. -/
theorem C15.both_or_neither_refused (a b : Option Bytes) :
    selectBytes (some a) (some b) = none ∧ selectBytes none none = none := by
  constructor <;> rfl

/-! Non-vacuity -/
example : fromBytes (some [1,2,3,4,5,6,7,8,9,10,11,12,13,14,15,16,17,18,19,20]) [0, 0, 0, 0, 0xFF, 7] = some (b64Encode (1 :: nadaEncode [0, 0, 0, 0, 0xFF, 7])) := by
  decide

end Brc20
