/-
C07 - The BRC20 bridge ledger is conserved and only the indexer can mint or burn.

`Ledger.step` is one message to the controller or directly to a token contract from an arbitrary sender (a reverted
message leaves the state unchanged).  `Good c` collects the invariants of reachable ledger states.
The engine-level facts "a user transaction's sender is a pkscript hash or a recovered signer, never the indexer
address" and "deposits / withdrawals are the only operations whose sender is the indexer" are the hypothesis
`hs` of `user_cannot_mint`; EVM isolation of contract storage and faithfulness of the compiled bytecode are
validated by correspondence (suite K), not proved.
-/
import Brc20.Model.Ledger
import Brc20.Proofs.AMap
import Brc20.Proofs.Ledger

namespace Brc20
open Ledger

theorem Ledger.userMsg_iff (c : Ctl) (m : Msg) :
    (match m with | .ctl s _ => s ≠ c.owner | .token s _ _ => s ≠ c.self) ↔ UserMsg c m := by
  cases m <;> exact Iff.rfl

/-! The invariants hold initially and are preserved by every message from every sender. -/

theorem C07.good_init (self owner : Addr) (h : self ≠ 0) : Ledger.Good { self := self, owner := owner } :=
  Ledger.good_init self owner h

theorem C07.good_step (c : Ctl) (m : Msg) (h : Ledger.Good c) : Ledger.Good (step c m) := Ledger.good_step m h

/-- **Supply = sum of balances**, for every token, after any message history. -/
theorem C07.supply_eq_sum (self owner : Addr) (hs : self ≠ 0) (ms : List Msg) (tk : List UInt8) (t : Token)
    (ht : (run { self := self, owner := owner } ms).tokens.get? tk = some t) : t.totalSupply = t.sumBalances :=
  ((good_run ms (Ledger.good_init self owner hs)).tokOk ht).sup

/-- **Only the indexer changes a supply**: a message whose sender is neither the indexer (for controller calls)
nor the controller itself (for direct token calls) leaves every total supply unchanged. -/
theorem C07.only_owner_changes_supply (c : Ctl) (h : Ledger.Good c) (m : Msg)
    (hs : match m with | .ctl s _ => s ≠ c.owner | .token s _ _ => s ≠ c.self) (tk : List UInt8) :
    (step c m).totalSupply tk = c.totalSupply tk :=
  step_supply h m ((Ledger.userMsg_iff c m).mp hs) tk

/-- Hence no sequence of user messages creates or destroys tokens. -/
theorem C07.user_cannot_mint (c : Ctl) (h : Ledger.Good c) (ms : List Msg)
    (hs : ∀ m ∈ ms, match m with | .ctl s _ => s ≠ c.owner | .token s _ _ => s ≠ c.self) (tk : List UInt8) :
    (run c ms).totalSupply tk = c.totalSupply tk := by
  induction ms generalizing c with
  | nil => rfl
  | cons m ms ih =>
    show (run (step c m) ms).totalSupply tk = _
    rw [ih (step c m) (Ledger.good_step m h)]
    · exact C07.only_owner_changes_supply c h m (hs m (List.mem_cons_self ..)) tk
    · intro m' hm'
      have := hs m' (List.mem_cons_of_mem _ hm')
      rw [step_self, step_owner]
      exact this

/-- **Deposit** (the indexer's `mint`): the balance grows by exactly the amount (when the supply stays below
2^256), nobody else's balance of that ticker changes. -/
theorem C07.deposit_exact (c : Ctl) (h : Ledger.Good c) (tk : List UInt8) (to : Addr) (v : Nat) (hto : to ≠ 0)
    (hfit : c.totalSupply tk + v ≤ MAXU) :
    (step c (.ctl c.owner (.mint tk to v))).balanceOf tk to = c.balanceOf tk to + v ∧
    ∀ a, a ≠ to → (step c (.ctl c.owner (.mint tk to v))).balanceOf tk a = c.balanceOf tk a := by
  have ok := h.tokenAt tk
  have hs := step_mint h tk hto v
  have hu := update_spec ok 0 to v
  rw [totalSupply_eq] at hfit
  cases hx : (c.tokenAt tk).update 0 to v with
  | none =>
    rw [hx] at hu
    exact absurd hfit (Nat.not_le_of_lt hu)
  | some t' =>
    rw [hx] at hu hs
    obtain ⟨ok', -, -, hb⟩ := hu
    simp only [balanceOf_eq, hs.tokenAt, if_true]
    refine ⟨?_, fun a ha => ?_⟩
    · have := hb to hto
      rwa [if_neg hto, if_pos rfl] at this
    · by_cases a0 : a = 0
      · rw [a0, ok'.balanceOf_zero, ok.balanceOf_zero]
      · have := hb a a0
        rwa [if_neg a0, if_neg ha] at this

/-- **Withdrawal** (the indexer's `burn`): succeeds exactly when the balance suffices and then lowers it by the
amount; otherwise nothing changes (an overdraft is a no-op). -/
theorem C07.withdraw_exact_or_noop (c : Ctl) (h : Ledger.Good c) (tk : List UInt8) (from_ : Addr) (v : Nat)
    (hf : from_ ≠ 0) :
    (v ≤ c.balanceOf tk from_ ∧ (c.tokens.get? tk).isSome →
        (step c (.ctl c.owner (.burn tk from_ v))).balanceOf tk from_ = c.balanceOf tk from_ - v) ∧
    (c.balanceOf tk from_ < v → ∀ a, (step c (.ctl c.owner (.burn tk from_ v))).balanceOf tk a = c.balanceOf tk a) := by
  have hs := step_burn h tk hf v
  simp only [balanceOf_eq]
  cases hg : c.tokens.get? tk with
  | none =>
    rw [hg] at hs
    exact ⟨fun h => (nomatch h.2), fun _ _ => by rw [hs]⟩
  | some t0 =>
    have ok := h.tokOk hg
    rw [tokenAt_of_get? hg]
    have hu := update_spec ok from_ 0 v
    rw [hg, Option.bind_some] at hs
    cases hx : t0.update from_ 0 v with
    | none =>
      rw [hx] at hu hs
      rw [if_neg hf] at hu
      rw [hs, tokenAt_of_get? hg]
      exact ⟨fun h => absurd h.1 (Nat.not_le_of_lt hu), fun _ _ => rfl⟩
    | some t' =>
      rw [hx] at hu hs
      have := hu.2.2.2 from_ hf
      rw [if_pos rfl, if_neg hf] at this
      rw [hs.tokenAt, if_pos rfl]
      exact ⟨fun _ => by omega, fun _ => by omega⟩

/-- **Transfers conserve**: any message that is not a mint or burn by the owner keeps `balance(from) + balance(to)`
accounting exact: the sum of all balances of every token is unchanged. -/
theorem C07.transfers_conserve (c : Ctl) (h : Ledger.Good c) (m : Msg)
    (hs : match m with | .ctl s _ => s ≠ c.owner | .token s _ _ => s ≠ c.self) (tk : List UInt8) (t t' : Token)
    (ht : c.tokens.get? tk = some t) (ht' : (step c m).tokens.get? tk = some t') : t'.sumBalances = t.sumBalances := by
  have e := C07.only_owner_changes_supply c h m hs tk
  simp only [Ctl.totalSupply, ht, ht'] at e
  have h1 : t.totalSupply = t.sumBalances := (h.tokOk ht).sup
  have h2 : t'.totalSupply = t'.sumBalances := ((Ledger.good_step m h).tokOk ht').sup
  rw [← h1, ← h2, e]

end Brc20
