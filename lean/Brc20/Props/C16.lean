/-
C16 - Gas allowance follows inscription size and gas estimates are sufficient.

The EVM enters through two explicit hypotheses only: `succ` (does the simulated call succeed at this gas limit?) is
an arbitrary function for soundness/termination, and monotone ("programs that do not inspect remaining gas") for
sufficiency.  `gasUsed ≤ gasLimit` is revm's contract and is validated by correspondence, not proved.
The last section is about failed transactions: there the EVM enters as the recorded writes of the call.
-/
import Brc20.Model.DriverE
import Brc20.Proofs.DriverE
import Brc20.Model.FailedTx
import Brc20.Proofs.FailedTx
import Brc20.Proofs.Node
import Brc20.Model.Gas
import Brc20.Gen.Constants

namespace Brc20
open Gas

/-- The constants of the model are those of the source. -/
theorem C16.constants : Gen.GAS_PER_BYTE = 12000 ∧ Gen.ESTIMATE_LOWER_GAS_LIMIT = 21000 ∧
    Gen.EVM_CALL_GAS_LIMIT = 1000000000 := by decide

/-- The allowance is `12000 * length`, saturating at `u64::MAX`; it never exceeds either. -/
theorem C16.gas_limit_def (n : Nat) :
    gasLimit 12000 n = (if n * 12000 ≤ U64MAX then n * 12000 else U64MAX) ∧ gasLimit 12000 n ≤ U64MAX ∧
    gasLimit 12000 n ≤ n * 12000 := by
  unfold gasLimit
  refine ⟨?_, Nat.min_le_right _ _, Nat.min_le_left _ _⟩
  split <;> omega

/-- The allowance is monotone in the inscription length. -/
theorem C16.gas_limit_mono (a b : Nat) (h : a ≤ b) : gasLimit 12000 a ≤ gasLimit 12000 b := by
  unfold gasLimit
  have : a * 12000 ≤ b * 12000 := Nat.mul_le_mul_right _ h
  omega

/-- Converting a stored allowance back to a length and forth again gives the same allowance whenever the original
product did not saturate (this is how a parked transaction keeps its allowance until it is drained). -/
theorem C16.byte_len_inverse (n : Nat) (h : n * 12000 ≤ U64MAX) :
    gasLimit 12000 (byteLenOf 12000 (gasLimit 12000 n)) = gasLimit 12000 n := by
  unfold gasLimit byteLenOf
  have : min (n * 12000) U64MAX = n * 12000 := Nat.min_eq_left h
  rw [this, Nat.mul_div_cancel _ (by decide : 0 < 12000), this]

/-- **The loop, for an arbitrary `succ`.**  It ends with a lower bound `lo'` below the returned upper bound:
`lo ≤ lo' ≤ bisect .. ≤ hi`; the returned bound is `hi` itself or a limit that was seen to succeed; `lo'` is `lo`
itself or the successor of a limit that was seen to fail; and with enough fuel the two are at most `G` apart. -/
theorem C16.bisect_spec (G : Nat) (succ : Succ) (fuel lo hi : Nat) (hlo : lo ≤ hi) :
    ∃ lo', lo ≤ lo' ∧ lo' ≤ bisect G succ fuel lo hi ∧ bisect G succ fuel lo hi ≤ hi ∧
      (bisect G succ fuel lo hi = hi ∨ succ (bisect G succ fuel lo hi) = true) ∧
      (lo' = lo ∨ succ (lo' - 1) = false) ∧
      (hi - lo < 2 ^ fuel → bisect G succ fuel lo hi ≤ lo' + G) := by
  fun_induction bisect G succ fuel lo hi with
  | case1 lo hi => exact ⟨lo, Nat.le_refl _, hlo, Nat.le_refl _, .inl rfl, .inl rfl, by omega⟩
  | case2 f lo hi hc mid hm ih =>
    -- the probe at `mid` succeeded: the loop goes on between `lo` and `mid`
    obtain ⟨lo', h1, h2, h3, h4, h5, h6⟩ := ih (by omega)
    have hp : 2 ^ (f + 1) = 2 * 2 ^ f := Nat.pow_succ'
    exact ⟨lo', h1, h2, by omega, .inr (h4.elim (fun e => e.symm ▸ hm) id), h5, fun hf => h6 (by omega)⟩
  | case3 f lo hi hc mid hm ih =>
    -- the probe at `mid` failed: the loop goes on between `mid + 1` and `hi`
    obtain ⟨lo', h1, h2, h3, h4, h5, h6⟩ := ih (by omega)
    have hp : 2 ^ (f + 1) = 2 * 2 ^ f := Nat.pow_succ'
    refine ⟨lo', by omega, h2, h3, h4, .inr (h5.elim (fun e => ?_) id), fun hf => h6 (by omega)⟩
    subst e
    simpa using hm
  | case4 f lo hi hc => exact ⟨lo, Nat.le_refl _, hlo, Nat.le_refl _, .inl rfl, .inl rfl, fun _ => by omega⟩

/-- For an *arbitrary* `succ` the loop returns a limit between the bounds at which the last "sufficient" answer was
observed (or the initial upper bound). -/
theorem C16.bisect_invariant (G : Nat) (succ : Succ) (fuel lo hi : Nat) (hlo : lo ≤ hi) (hs : succ hi = true) :
    lo ≤ bisect G succ fuel lo hi ∧ bisect G succ fuel lo hi ≤ hi ∧ succ (bisect G succ fuel lo hi) = true := by
  obtain ⟨lo', h1, h2, h3, h4, -⟩ := C16.bisect_spec G succ fuel lo hi hlo
  exact ⟨Nat.le_trans h1 h2, h3, h4.elim (fun e => e.symm ▸ hs) id⟩

/-- The loop needs at most 64 simulations for any 64-bit bounds, whatever `succ` answers: the interval at least halves. -/
theorem C16.bisect_fuel (G : Nat) (succ : Succ) (fuel lo hi : Nat) (h : hi - lo < 2 ^ fuel) :
    bisect G succ (fuel + 1) lo hi = bisect G succ fuel lo hi ∧ bisectSteps G succ (fuel + 1) lo hi ≤ fuel := by
  induction fuel generalizing lo hi with
  | zero =>
    have : hi ≤ lo := by simp at h; omega
    simp [bisect, bisectSteps]; omega
  | succ f ih =>
    unfold bisect bisectSteps
    by_cases hc : lo + G < hi
    · simp only [hc, if_true]
      have hp : 2 ^ (f + 1) = 2 * 2 ^ f := Nat.pow_succ'
      cases hm : succ ((lo + hi) / 2) with
      | true =>
        simp only [if_true]
        have := ih lo ((lo + hi) / 2) (by omega)
        exact ⟨this.1, by omega⟩
      | false =>
        simp only [Bool.false_eq_true, if_false]
        have := ih ((lo + hi) / 2 + 1) hi (by omega)
        exact ⟨this.1, by omega⟩
    · simp [hc]

/-- **Soundness of `eth_estimateGas`** for an arbitrary program: whenever a figure `g` is returned, the first run at
the cap succeeded, `21000 ≤ g ≤ cap`, and the confirmation run at exactly `g` succeeded. -/
theorem C16.estimate_sound (cap : Nat) (succ : Succ) (hcap : 21000 ≤ cap) (g : Nat)
    (h : estimate 12000 21000 cap succ = some g) : succ cap = true ∧ 21000 ≤ g ∧ g ≤ cap ∧ succ g = true := by
  unfold estimate at h
  by_cases hc : succ cap = true
  · simp only [hc, if_true] at h
    have inv := C16.bisect_invariant 12000 succ 64 21000 cap hcap hc
    split at h
    · cases h
      exact ⟨hc, inv⟩
    · cases h
  · simp [hc] at h

/-- If the call succeeds at the cap, an estimate is always produced (the confirmation run cannot fail, because the
bisection only ever lowers the upper bound to a limit it has seen succeed). -/
theorem C16.estimate_total (cap : Nat) (succ : Succ) (hcap : 21000 ≤ cap) (hc : succ cap = true) :
    ∃ g, estimate 12000 21000 cap succ = some g := by
  unfold estimate
  have inv := C16.bisect_invariant 12000 succ 64 21000 cap hcap hc
  simp [hc, inv.2.2]

/-- **Sufficiency**: for programs that do not inspect remaining gas (`succ` monotone), the inscription length
`ceil(g / 12000)` derived from the estimate yields an allowance at which the call succeeds. -/
theorem C16.estimate_sufficient (cap : Nat) (succ : Succ) (hcap : 21000 ≤ cap) (hU : cap ≤ U64MAX)
    (mono : ∀ a b, a ≤ b → succ a = true → succ b = true) (g : Nat)
    (h : estimate 12000 21000 cap succ = some g) : succ (gasLimit 12000 (lenFor 12000 g)) = true := by
  obtain ⟨_, _, hg, hs⟩ := C16.estimate_sound cap succ hcap g h
  apply mono g _ _ hs
  unfold gasLimit lenFor
  have h1 : g ≤ (g + 12000 - 1) / 12000 * 12000 := by
    have := Nat.div_add_mod (g + 12000 - 1) 12000
    have := Nat.mod_lt (g + 12000 - 1) (by decide : 0 < 12000)
    omega
  have : g ≤ U64MAX := by omega
  omega

/-- With enough fuel and a monotone `succ`, no limit from `lo` on that lies more than `G` below the result
succeeds: it lies below the final lower bound, whose predecessor was seen to fail. -/
theorem C16.bisect_tight (G : Nat) (succ : Succ) (fuel lo hi : Nat) (hlo : lo ≤ hi) (hf : hi - lo < 2 ^ fuel)
    (mono : ∀ a b, a ≤ b → succ a = true → succ b = true) (l : Nat) (hl : lo ≤ l)
    (h : l + G + 1 ≤ bisect G succ fuel lo hi) : succ l = false := by
  obtain ⟨lo', _, _, _, _, h5, h6⟩ := C16.bisect_spec G succ fuel lo hi hlo
  have := h6 hf
  rcases h5 with rfl | h5
  · omega
  · exact Bool.eq_false_iff.mpr fun hx => by rw [mono l (lo' - 1) (by omega) hx] at h5; cases h5

/-- **Tightness**, stated for the loop that `estimate` runs (there `G = 12000`, `lo = 21000`, `hi` the cap, fuel 64):
under the same monotonicity, with fuel for the interval and every limit below `lo` insufficient, no limit more than
`G` below the returned bound succeeds - the figure is within `G` gas of the least sufficient limit. -/
theorem C16.estimate_tight (G : Nat) (succ : Succ) (fuel lo hi : Nat) (hlo : lo ≤ hi)
    (hf : hi - lo < 2 ^ fuel)
    (mono : ∀ a b, a ≤ b → succ a = true → succ b = true)
    (hbelow : ∀ l, l < lo → succ l = false) :
    ∀ l, l + G + 1 ≤ bisect G succ fuel lo hi → succ l = false := fun l h =>
  (Nat.lt_or_ge l lo).elim (hbelow l) fun hl => C16.bisect_tight G succ fuel lo hi hlo hf mono l hl h

/-! Non-vacuity: a threshold program needing 100000 gas. -/
example : estimate 12000 21000 1000000000 (fun g => decide (100000 ≤ g)) = some 104921 := by decide
example : gasLimit 12000 (lenFor 12000 104921) = 108000 := by decide

/-! ### A failed transaction changes no state except, at most, its sender's nonce

The model does not run code.  What it can carry: the *recorded* table writes of an indexer call whose single EVM run
failed (out of gas included) are checked by the driver (`failedTxOk`, reject `failed-tx-wrote-state`), and for every
call that passes this check and is accepted, the EVM state tables of the node after the call answer every key as
before - storage and code without exception, accounts except the sender's own row (nonce) and the coinbase row (the
zero address, which revm touches: rewritten with its current value or created as the empty account).  The tie: suite
E sends the recorded writes of every transaction; oracle `failed-tx-state` compares the storage and code tables of
the real engine before and after every failed transaction. -/

open Node in
/-- **Storage and code are untouched by a failed transaction, accounts except sender and coinbase too** - for every
node, every recorded event list that passes `failedTxOk`, every accepted `addTxs` whose single run failed. -/
theorem C16.failed_tx_changes_no_state (n : Node) (ts : Nat) (h : String) (idx : Nat) (txid : Option String)
    (evs : List Ev) (k : Option Nat) (fs : List (String × String)) (okRun : Bool) (gas logs : Nat)
    (hr : txRuns evs = [(fs, okRun, false, gas, logs)]) (hdisc : n.failedTxOk evs = true)
    (hok : (n.addTxs ts h idx txid evs k).2 = .ok) :
    (∀ key, ((n.addTxs ts h idx txid evs k).1.t .accountMemory).latest key = (n.t .accountMemory).latest key) ∧
    (∀ key, ((n.addTxs ts h idx txid evs k).1.t .code).latest key = (n.t .code).latest key) ∧
    (∀ key, key ≠ field fs "caller" → key ≠ zeroAddr →
      ((n.addTxs ts h idx txid evs k).1.t .account).latest key = (n.t .account).latest key) := by
  obtain ⟨_, n', a, hn'⟩ := addTxs_accepted hok
  rw [hn']
  exact ⟨fun key => failedTx_frame hr hdisc a.applied _ key (.inl rfl),
    fun key => failedTx_frame hr hdisc a.applied _ key (.inr (.inl rfl)),
    fun key h1 h2 => failedTx_frame hr hdisc a.applied _ key (.inr (.inr ⟨rfl, h1, h2⟩))⟩

open Node in
/-- the check refuses a failed transaction that wrote a storage slot (non-vacuity of the discipline: the rule bites) -/
example : ({} : Node).failedTxOk
    [.x "tx" [("caller", "aa")] true false 21000 0, .s "account_memory" 0 "k" (some "v")] = false := by decide

open Node in
/-- and accepts the nonce bump of the sender together with the touched coinbase -/
example : ({} : Node).failedTxOk
    [.x "tx" [("caller", "aa")] true false 21000 0, .s "account" 0 "aa" (some "row"),
     .s "account" 0 zeroAddr (some emptyAccountRow)] = true := by decide

open Node in
/-- **The driver applies the discipline to every single-transaction call**: a `deploy` / `call` / `deposit` /
`withdraw` line that the model answers `ok` passed `failedTxOk` (so `C16.failed_tx_changes_no_state` applies to it
whenever its run failed); a recorded failed run that wrote state is answered `model-reject` instead and shows up as a
broken correspondence. -/
theorem C16.accepted_call_passed_discipline (n : Node) (line : String)
    (hop : DriverE.opOf line = "deploy" ∨ DriverE.opOf line = "call" ∨ DriverE.opOf line = "deposit" ∨
      DriverE.opOf line = "withdraw")
    (hok : (DriverE.stepCore n line).2 = .inl .ok) : n.failedTxOk (DriverE.eventsOf line) = true := by
  rw [DriverE.stepCore_tx n line hop] at hok
  simp only [] at hok
  split at hok
  · cases hok
  split at hok
  · cases hok
  split at hok
  · cases hok
  · rename_i hd; simpa using hd

end Brc20
