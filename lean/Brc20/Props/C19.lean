/-
C19 - Contracts see exactly the block context the indexer supplied.

The model does not build the environment: it *checks* the environment recorded from the real code (`Node.envOk`)
against what the indexer supplied, and refuses the events otherwise (a broken correspondence). These theorems say
what an accepted call guarantees about every run it contained.
-/
import Brc20.Model.DriverE
import Brc20.Proofs.DriverE
import Brc20.Model.Node
import Brc20.Proofs.Node
import Brc20.Model.Forks
import Brc20.Gen.Constants

namespace Brc20
open Node

/-- Every run of an accepted `add_tx` call saw: block number = the height being built, the supplied timestamp,
the supplied (or generated) block hash as randomness, zero base fee / gas price / value / coinbase. -/
theorem C19.accepted_runs_saw_supplied_context (n : Node) (ts : Nat) (h : String) (idx : Nat) (txid : Option String)
    (evs : List Ev) (k : Option Nat) (hok : (n.addTxs ts h idx txid evs k).2 = .ok) :
    ∀ r ∈ txRuns evs, envOk r.1 n.nextHeight ts (normHash h n.nextHeight) none = true := by
  obtain ⟨_, _, a, _⟩ := addTxs_accepted hok
  exact a.env

/-- ... and the first run (the submitted transaction itself) saw the Bitcoin transaction id supplied with it. -/
theorem C19.accepted_first_run_saw_txid (n : Node) (ts : Nat) (h : String) (idx : Nat) (txid : String)
    (evs : List Ev) (k : Option Nat) (hok : (n.addTxs ts h idx (some txid) evs k).2 = .ok) :
    ∃ r, (txRuns evs).head? = some r ∧ envOk r.1 n.nextHeight ts (normHash h n.nextHeight) (some txid) = true := by
  obtain ⟨_, _, a, _⟩ := addTxs_accepted hok
  cases hr : txRuns evs with
  | nil => exact absurd hr a.runs
  | cons r rs => exact ⟨r, rfl, a.envHead r (by rw [hr]; rfl)⟩

/-- A zero block hash is replaced by the generated one (block number + 1, big endian), never passed through. -/
theorem C19.zero_hash_generated (bn : Nat) : normHash zeroHash bn = generatedHash bn ∧
    (∀ h, h ≠ zeroHash → normHash h bn = h) :=
  ⟨normHash_zero bn, fun h hh => if_neg hh⟩

/-- The block under construction records the supplied header on its first transaction and keeps it. -/
theorem C19.header_recorded (n : Node) (ts : Nat) (h : String) (txid : Option String) (evs : List Ev) (k : Option Nat)
    (hw : n.lbi.waiting = 0) (hok : (n.addTxs ts h 0 txid evs k).2 = .ok) :
    (n.addTxs ts h 0 txid evs k).1.lbi.ts = ts ∧ (n.addTxs ts h 0 txid evs k).1.lbi.hash = normHash h n.nextHeight := by
  obtain ⟨_, n', _, hn⟩ := addTxs_accepted hok
  rw [hn]
  simp [bumpLbi_ts, bumpLbi_hash, startLbi, hw]

/-- The activation heights the model driver answers `fork` lines with are the ones in the source. -/
theorem C19.fork_heights_pinned :
    Gen.PRAGUE_ACTIVATION_HEIGHT_MAINNET = 923369 ∧ Gen.PRAGUE_ACTIVATION_HEIGHT_SIGNET = 275000 ∧
    Gen.RLP_HASH_ACTIVATION_HEIGHT_MAINNET = 929000 ∧ Gen.RLP_HASH_ACTIVATION_HEIGHT_SIGNET = 0 := by decide

/-- "Where the Prague rules are in force, and only there": on mainnet exactly from the activation height on, on signet
exactly from its own, everywhere else (regtest, testnets, unknown names) at every height - for every height. -/
theorem C19.prague_in_force_iff (net : String) (h : Nat) :
    Forks.prague Gen.PRAGUE_ACTIVATION_HEIGHT_MAINNET Gen.PRAGUE_ACTIVATION_HEIGHT_SIGNET (Forks.netOf net) h = true ↔
      ((net = "bitcoin" ∨ net = "mainnet") ∧ Gen.PRAGUE_ACTIVATION_HEIGHT_MAINNET ≤ h) ∨
      (net = "signet" ∧ Gen.PRAGUE_ACTIVATION_HEIGHT_SIGNET ≤ h) ∨
      (net ≠ "bitcoin" ∧ net ≠ "mainnet" ∧ net ≠ "signet") := by
  unfold Forks.netOf
  by_cases h1 : net = "bitcoin"
  · subst h1; simp [Forks.prague]
  · by_cases h2 : net = "mainnet"
    · subst h2; simp [Forks.prague]
    · by_cases h3 : net = "signet"
      · subst h3; simp [Forks.prague]
      · simp [Forks.prague, h1, h2, h3]

/-- The rules never switch back: once in force at a height they are in force at every later height. -/
theorem C19.prague_monotone (pm ps : Nat) (net : Forks.Net) (h h' : Nat) (hle : h ≤ h')
    (hp : Forks.prague pm ps net h = true) : Forks.prague pm ps net h' = true := by
  cases net <;> simp [Forks.prague] at * <;> omega

/-- **"Where the Prague rules are in force, and only there"**, for the transaction that runs in block `exec` - whether
it was submitted in that block or parked in any earlier block `park` and drained now: under Prague the contract reads
the txid supplied with *that* transaction, before Prague it reads nothing; the parking block does not matter (the
model's answer to a `pbound` line does not take it; suite E sends `park` and `exec` on both sides of the height and
across it, on signet and on mainnet in every run). -/
theorem C19.txid_seen_rule (net : String) (exec : Nat) (supplied : String) :
    Forks.txidSeen Gen.PRAGUE_ACTIVATION_HEIGHT_MAINNET Gen.PRAGUE_ACTIVATION_HEIGHT_SIGNET (Forks.netOf net) exec supplied zeroHash =
      if Forks.prague Gen.PRAGUE_ACTIVATION_HEIGHT_MAINNET Gen.PRAGUE_ACTIVATION_HEIGHT_SIGNET (Forks.netOf net) exec
      then supplied else zeroHash := rfl

/-- a transaction parked before the activation height and executed at or after it sees its own txid (signet) -/
theorem C19.parked_across_signet (park exec : Nat) (supplied : String) (_hp : park < Gen.PRAGUE_ACTIVATION_HEIGHT_SIGNET)
    (he : Gen.PRAGUE_ACTIVATION_HEIGHT_SIGNET ≤ exec) :
    Forks.txidSeen Gen.PRAGUE_ACTIVATION_HEIGHT_MAINNET Gen.PRAGUE_ACTIVATION_HEIGHT_SIGNET .signet exec supplied zeroHash = supplied := by
  simp [Forks.txidSeen, Forks.prague, he]

/-- and on mainnet -/
theorem C19.parked_across_mainnet (park exec : Nat) (supplied : String) (_hp : park < Gen.PRAGUE_ACTIVATION_HEIGHT_MAINNET)
    (he : Gen.PRAGUE_ACTIVATION_HEIGHT_MAINNET ≤ exec) :
    Forks.txidSeen Gen.PRAGUE_ACTIVATION_HEIGHT_MAINNET Gen.PRAGUE_ACTIVATION_HEIGHT_SIGNET .bitcoin exec supplied zeroHash = supplied := by
  simp [Forks.txidSeen, Forks.prague, he]

/-- before the activation height the helper answers nothing, whatever was supplied -/
theorem C19.no_txid_before_prague (exec : Nat) (supplied : String) (he : exec < Gen.PRAGUE_ACTIVATION_HEIGHT_SIGNET) :
    Forks.txidSeen Gen.PRAGUE_ACTIVATION_HEIGHT_MAINNET Gen.PRAGUE_ACTIVATION_HEIGHT_SIGNET .signet exec supplied zeroHash = zeroHash := by
  have : ¬ Gen.PRAGUE_ACTIVATION_HEIGHT_SIGNET ≤ exec := by omega
  simp [Forks.txidSeen, Forks.prague, this]

/-- Where the RLP-hash rule is in force at the parking block, a second signer parking the same (nonce, target, data)
does not disturb the first one's txid: the colliding case coincides with the plain rule. -/
theorem C19.no_collision_under_rlp_hash (net : Forks.Net) (park exec : Nat) (supplied other : String)
    (h : Forks.rlpHash Gen.RLP_HASH_ACTIVATION_HEIGHT_MAINNET Gen.RLP_HASH_ACTIVATION_HEIGHT_SIGNET net park = true) :
    Forks.txidSeenColliding Gen.PRAGUE_ACTIVATION_HEIGHT_MAINNET Gen.PRAGUE_ACTIVATION_HEIGHT_SIGNET
        Gen.RLP_HASH_ACTIVATION_HEIGHT_MAINNET Gen.RLP_HASH_ACTIVATION_HEIGHT_SIGNET net park exec supplied other zeroHash =
      Forks.txidSeen Gen.PRAGUE_ACTIVATION_HEIGHT_MAINNET Gen.PRAGUE_ACTIVATION_HEIGHT_SIGNET net exec supplied zeroHash := by
  simp [Forks.txidSeenColliding, Forks.txidSeen, h]

/-- ... which is every height on every network but mainnet -/
theorem C19.no_collision_off_mainnet (net : Forks.Net) (hn : net ≠ .bitcoin) (park : Nat) :
    Forks.rlpHash Gen.RLP_HASH_ACTIVATION_HEIGHT_MAINNET Gen.RLP_HASH_ACTIVATION_HEIGHT_SIGNET net park = true := by
  cases net with
  | bitcoin => exact absurd rfl hn
  | signet => simp [Forks.rlpHash, Gen.RLP_HASH_ACTIVATION_HEIGHT_SIGNET]
  | other => rfl

/-- **Known finding F21, machine-checked on the model**: on mainnet, for a pair parked below the RLP-hash activation
height and executed under Prague, the first transaction reads the *other* submission's txid - the property's "supplied
with that transaction" fails there; what holds is `C19.no_collision_under_rlp_hash`: the plain rule wherever the RLP-hash rule is in force at the parking block.
The witness is replayed on the real code in every run (corpus case `prague_boundary_mainnet`). -/
theorem C19.finding_F21_legacy_hash_collision :
    Forks.txidSeenColliding Gen.PRAGUE_ACTIVATION_HEIGHT_MAINNET Gen.PRAGUE_ACTIVATION_HEIGHT_SIGNET
        Gen.RLP_HASH_ACTIVATION_HEIGHT_MAINNET Gen.RLP_HASH_ACTIVATION_HEIGHT_SIGNET .bitcoin 923373 923374 "t26" "t27" zeroHash = "t27" := by
  decide

/-- **What the driver answers to an observation of the Prague-boundary scenario is the rule of `C19.txid_seen_rule`,
with the activation heights that are in the source** (the driver carries the numbers; `Gen` is regenerated on every
run): the node plays no part, and for an ordinary observation neither does the parking block. -/
theorem C19.pbound_answer (n : Node) (line : String) (hop : DriverE.opOf line = "pbound")
    (hk : (DriverE.argOf line "kind" == "collide") = false) :
    DriverE.stepCore n line =
      (n, .inr ("seen=" ++ Forks.txidSeen Gen.PRAGUE_ACTIVATION_HEIGHT_MAINNET Gen.PRAGUE_ACTIVATION_HEIGHT_SIGNET
        (Forks.netOf (DriverE.argOf line "net")) (DriverE.argOf line "exec").toNat! (DriverE.argOf line "txid") zeroHash)) := by
  unfold DriverE.opOf at hop
  unfold DriverE.argOf at hk ⊢
  unfold DriverE.stepCore
  simp only [hop, hk, Bool.false_eq_true, if_false]
  rfl

/-- the same for an observation of the colliding pair: the driver answers with `txidSeenColliding` at the regenerated
heights (Prague and RLP-hash activation), so that finding F21 is reproduced exactly where `C19.finding_F21_legacy_hash_collision`
says and nowhere else (`C19.no_collision_under_rlp_hash`). -/
theorem C19.pbound_collide_answer (n : Node) (line : String) (hop : DriverE.opOf line = "pbound")
    (hk : (DriverE.argOf line "kind" == "collide") = true) :
    DriverE.stepCore n line =
      (n, .inr ("seen=" ++ Forks.txidSeenColliding Gen.PRAGUE_ACTIVATION_HEIGHT_MAINNET Gen.PRAGUE_ACTIVATION_HEIGHT_SIGNET
        Gen.RLP_HASH_ACTIVATION_HEIGHT_MAINNET Gen.RLP_HASH_ACTIVATION_HEIGHT_SIGNET
        (Forks.netOf (DriverE.argOf line "net")) (DriverE.argOf line "park").toNat! (DriverE.argOf line "exec").toNat!
        (DriverE.argOf line "txid") (DriverE.argOf line "other") zeroHash)) := by
  unfold DriverE.opOf at hop
  unfold DriverE.argOf at hk ⊢
  unfold DriverE.stepCore
  simp only [hop, hk, if_true]
  rfl

end Brc20
