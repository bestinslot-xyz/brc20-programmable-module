/-
C09 - No request can crash, hang or wedge the server.

What is proved here is the part of the property that is logic of this code base:
  * the database slot: every control path of every closure that moves the database out puts it back before the
    closure is left (paths regenerated from src/engine/engine.rs on every run), hence after any sequence of
    requests, whatever the EVM answered, the real database is in the slot - and why one unbalanced path wedges the
    server for good;
  * the panic inventory: every place in the shipped code that can panic by itself (unwrap / expect / panic! /
    assert! / indexing; regenerated on every run) is in the reviewed table, with the category that says which guard,
    invariant or theorem keeps requests away from it;
  * the guards the inventory leans on that have a model: payload decoding refuses instead of panicking (C15), an
    accepted reorg never reaches the "Reorg too deep" panic (C01), handlers cannot deadlock (C11, separate file).
Not covered by proof (parameters, exercised by suite Z on the real code): panics, loops and recursion inside revm,
alloy, bitcoin, zstd, rocksdb, jsonrpsee; stack and memory exhaustion; the time a bounded loop takes.
-/
import Brc20.Model.Slot
import Brc20.Model.PanicReview
import Brc20.Gen.Slot
import Brc20.Gen.PanicSites
import Brc20.Props.C01
import Brc20.Props.C15

namespace Brc20
open Slot Node

/-- Every control path of every closure that moves the database out leaves it back in the slot. -/
theorem C09.slot_paths_balanced :
    ∀ r ∈ Gen.slotRegions, ∀ p ∈ r.2.2, balanced p = true := by decide

/-- Only `engine.rs` moves the database out (the regions above are all there are). -/
theorem C09.slot_only_in_engine : Gen.slotOtherFiles = [] := rfl

/-- While the database is moved out, the only operation that could panic by itself is the bounded index `tx_infos[idx]`
(`idx` ranges over `0..tx_infos.len()`). -/
theorem C09.moved_out_panic_sites : Gen.slotPanicSites.length ≤ 1 := by decide

/-- **The slot is never left empty**: serve any sequence of requests, each following any balanced path (which one
depends on the request and on what the EVM answered - the choice is arbitrary): the real database is in the slot
afterwards. -/
theorem C09.slot_always_full (ps : List (List Slot.Ev)) (h : ∀ p ∈ ps, balanced p = true) : serveAll true ps = true := by
  induction ps with
  | nil => rfl
  | cons p ps ih =>
    have e : serve true p = true := by
      rw [serve, if_pos rfl, eq_of_beq (h p List.mem_cons_self)]
      rfl
    rw [serveAll, List.foldl_cons, e]
    exact ih fun q hq => h q (List.mem_cons_of_mem _ hq)

/-- ... instantiated with the regenerated table: any sequence of requests through the engine's three EVM entry
points. -/
theorem C09.engine_slot_always_full (ps : List (List Slot.Ev))
    (h : ∀ p ∈ ps, ∃ r ∈ Gen.slotRegions, p ∈ r.2.2) : serveAll true ps = true :=
  C09.slot_always_full ps (fun p hp => by
    obtain ⟨r, hr, hpr⟩ := h p hp
    exact C09.slot_paths_balanced r hr p hpr)

/-- Why it matters: once a request leaves the slot empty, every later request finds it empty - the server is wedged
for good (until restart). -/
theorem C09.empty_slot_stays_empty (ps : List (List Slot.Ev)) : serveAll false ps = false := by
  induction ps with
  | nil => rfl
  | cons p ps ih => simpa [serveAll, serve] using ih

/-- A path that exits between take and restore (the shape of `outputs.push(result?)` inside the moved-out region) is
rejected by the check, and does wedge the server. -/
theorem C09.exit_while_moved_out_wedges :
    balanced [.take, .exit] = false ∧ ∀ ps, serveAll true ([.take, .exit] :: ps) = false := by
  refine ⟨by decide, ?_⟩
  intro ps
  show serveAll (serve true [.take, .exit]) ps = false
  have : serve true [.take, .exit] = false := by decide
  rw [this]
  exact C09.empty_slot_stays_empty ps

theorem C09.keys_perm : Gen.panicSiteKeys.Perm PanicReview.keys := List.isPerm_iff.mp (by decide)

/-- **Panic inventory**: every site of the shipped code that can panic by itself has been reviewed. -/
theorem C09.panic_sites_reviewed : ∀ k ∈ Gen.panicSiteKeys, k ∈ PanicReview.keys :=
  fun _ => C09.keys_perm.mem_iff.mp

/-- The inventory is not empty and the review table carries no stale rows (every reviewed key still exists). -/
theorem C09.review_table_current : Gen.panicSiteKeys.length = PanicReview.keys.length ∧
    ∀ k ∈ PanicReview.keys, k ∈ Gen.panicSiteKeys :=
  ⟨C09.keys_perm.length_eq, fun _ => C09.keys_perm.mem_iff.mpr⟩

/-- Guard used by the inventory (payload sites): an empty payload is refused, not indexed. -/
theorem C09.empty_payload_refused (limit : Nat) (zdec : List UInt8 → Option (List UInt8)) (t : List Char) :
    Payload.decodePayload limit zdec [] = none ∧ Payload.decodePayload limit zdec ('=' :: t) = none :=
  C15.empty_refused limit zdec t

/-- Guard used by the inventory (`Reorg too deep`): an accepted reorg does not panic. -/
theorem C09.accepted_reorg_does_not_panic (n : Node) (g : TId → TSpec String String) (hs : NodeSim n g)
    (target : Nat) (hwin : ∀ i, (g i).maxEver ≤ target + W ∧ target ≤ (g i).maxEver)
    (hacc : ¬ (n.lbi.waiting ≠ 0 ∨ target > n.latestHeight ∨ n.latestHeight - target > W ∨
      n.maxBlock.getD 0 > W + target)) : (n.reorg target).2 ≠ .panic := by
  rw [(C01.reorg_restores_tables n g hs target hwin hacc).1]
  decide

/-- A refused reorg is an error answer, not a panic. -/
theorem C09.refused_reorg_is_an_error (n : Node) (target : Nat)
    (h : n.lbi.waiting ≠ 0 ∨ target > n.latestHeight ∨ n.latestHeight - target > W ∨
      n.maxBlock.getD 0 > W + target) : ∃ e, (n.reorg target).2 = .err e :=
  (C01.reorg_refused_iff n target).2 h

end Brc20
