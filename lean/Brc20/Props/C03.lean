/-
C03 - Commit points are unobservable; uncommitted work is what is lost.

`NodeSim n g`: every versioned table of the node is in simulation (`Table.Sim`, see Proofs/Table.lean) with a plain
per-key-log specification `g i`.  Reads are `Table.latest` (point reads; scans are functions of them, C13) and
`BlockDb.get`.  The second half states the same for every reachable node (`Node.Reach`), with the logs the run carries.
-/
import Brc20.Proofs.NodeSim
import Brc20.Proofs.ReachProps
import Brc20.Proofs.Scenario
import Brc20.Gen.Tables

namespace Brc20
open Node

/-- **Commit is unobservable**: every table read, every block-table read and both heights are unchanged, the
block under construction is untouched (there is none), and the node stays in simulation (so the statement iterates
over any later history). -/
theorem C03.commit_unobservable (n : Node) (g : TId → TSpec String String) (hs : NodeSim n g) (hh : HeightInv n)
    (hw : n.lbi.waiting = 0) :
    n.commit.2 = .ok ∧
    (∀ i k, (n.commit.1.t i).latest k = (n.t i).latest k) ∧
    (∀ i k, (n.commit.1.b i).get k = (n.b i).get k) ∧
    n.commit.1.latestHeight = n.latestHeight ∧ n.commit.1.nextHeight = n.nextHeight ∧
    n.commit.1.lbi = n.lbi ∧ n.commit.1.maxBlock = n.maxBlock ∧
    (∃ g', NodeSim n.commit.1 g' ∧ ∀ i, (g' i).cur = (g i).cur) ∧ HeightInv n.commit.1 := by
  rw [commit_of_boundary hw]
  refine ⟨rfl, fun i k => Table.latest_commit W n.nextHeight (hs.sim i).inv.cache_nodup k,
    fun i k => BlockDb.get_commit_clear (n.b i) k, ?_, ?_, rfl, rfl, ?_, ?_⟩
  · rw [commitAll_latestHeight, latestHeight_of_last hh.latest_is_last]
  · rw [commitAll_nextHeight, nextHeight_of_last hh.latest_is_last]
  · exact ⟨fun i => (g i).step (.commit n.nextHeight), ⟨fun i => Table.sim_commit (hs.sim i) n.nextHeight⟩, fun i => rfl⟩
  · exact ⟨fun h x hl => (nomatch hl), fun i => BlockDb.commit_clear_nodup (hh.nodup i).1⟩

/-- **After a commit, stop + reopen changes nothing observable.** -/
theorem C03.reopen_after_commit (n : Node) (g : TId → TSpec String String) (hs : NodeSim n g) (hh : HeightInv n)
    (hw : n.lbi.waiting = 0) :
    (∀ i k, (n.commit.1.reopen.t i).latest k = (n.t i).latest k) ∧
    (∀ i k, (n.commit.1.reopen.b i).get k = (n.b i).get k) ∧
    n.commit.1.reopen.latestHeight = n.latestHeight := by
  obtain ⟨_, h1, h2, h3, _⟩ := C03.commit_unobservable n g hs hh hw
  rw [commit_of_boundary hw] at h1 h2 h3 ⊢
  refine ⟨?_, ?_, ?_⟩
  · intro i k; rw [← h1 i k]; rfl
  · intro i k; rw [← h2 i k]; rfl
  · rw [← h3]; rfl

/-- **clearCaches / restart without commit = the state of the last commit**: every table reads its durable log
(the spec's `dur`), the block under construction is forgotten. -/
theorem C03.clear_is_last_commit (n : Node) (g : TId → TSpec String String) (hs : NodeSim n g) :
    (∀ i k, (n.clear.1.t i).latest k = ((g i).dur k).latest) ∧ n.clear.1.lbi = {} ∧ n.clear.1.latest = none ∧
    (∀ i k, (n.clear.1.b i).get k = (n.b i).db.get? k) ∧
    (∃ g', NodeSim n.clear.1 g' ∧ ∀ i, (g' i).cur = (g i).dur) := by
  refine ⟨?_, rfl, rfl, ?_, ?_⟩
  · intro i k
    exact Table.clear_reads_durable (hs.sim i) k
  · intro i k
    exact BlockDb.get_clear (n.b i) k
  · exact ⟨fun i => (g i).step .clear, ⟨fun i => Table.sim_clear (hs.sim i)⟩, fun i => rfl⟩

/-- **No table is forgotten** (regenerated from `Brc20ProgDatabase` on every run): `commit_changes`, `clear_caches`
and `reorg` each walk every one of the twelve versioned and three block-keyed tables exactly once.  (The model's
`commitAll`, `clear` and `reorg` treat all tables uniformly; a table dropped from one of the three functions in the
Rust breaks this theorem before any history is run.) -/
theorem C03.every_table_committed_cleared_rolled_back :
    (∀ l ∈ [Gen.commitVersioned, Gen.clearVersioned, Gen.reorgVersioned], l.length = 12 ∧ ∀ i, i < 12 → i ∈ l) ∧
    (∀ l ∈ [Gen.commitBlock, Gen.clearBlock, Gen.reorgBlock], l.length = 3 ∧ ∀ i, i < 3 → i ∈ l) := by decide

/-- The tables of the source are the tables of the model: same directory names, same declaration order. -/
theorem C03.tables_of_the_source :
    Gen.versionedTables = allTIds.map TId.name ∧ Gen.blockTables = allBIds.map BId.name := by decide

/-! ## The same, for every reachable state

Reachable: `Node.Reach` (Proofs/Ops.lean). The hypotheses `NodeSim n g` and `HeightInv n` of the theorems above are
discharged from it (`Reach.sim`, `Reach.heightInv`). -/

/-- **Commit is unobservable on every reachable node** at a block boundary, and the result is reachable again. -/
theorem C03.commit_unobservable_reachable (n : Node) (hr : Reach n) (hw : n.lbi.waiting = 0) :
    n.commit.2 = .ok ∧
    (∀ i k, (n.commit.1.t i).latest k = (n.t i).latest k) ∧
    (∀ i k, (n.commit.1.b i).get k = (n.b i).get k) ∧
    n.commit.1.latestHeight = n.latestHeight ∧ n.commit.1.nextHeight = n.nextHeight ∧
    n.commit.1.lbi = n.lbi ∧ n.commit.1.maxBlock = n.maxBlock ∧ Reach n.commit.1 := by
  obtain ⟨g, hs⟩ := hr.sim
  obtain ⟨h1, h2, h3, h4, h5, h6, h7, _, _⟩ := C03.commit_unobservable n g hs hr.heightInv hw
  refine ⟨h1, h2, h3, h4, h5, h6, h7, ?_⟩
  exact Reach.step .commit hr (by show n.commit.2.accepted; rw [h1]; trivial)

/-- Mid-block a commit is refused and changes nothing at all, so: **on every reachable node, whatever `commit`
answers, no read and no height changes.** -/
theorem C03.commit_never_observable (n : Node) (hr : Reach n) :
    (∀ i k, (n.commit.1.t i).latest k = (n.t i).latest k) ∧
    (∀ i k, (n.commit.1.b i).get k = (n.b i).get k) ∧
    n.commit.1.latestHeight = n.latestHeight ∧ n.commit.1.nextHeight = n.nextHeight := by
  by_cases hw : n.lbi.waiting = 0
  · obtain ⟨_, h2, h3, h4, h5, _⟩ := C03.commit_unobservable_reachable n hr hw
    exact ⟨h2, h3, h4, h5⟩
  · rw [commit_of_waiting hw]
    exact ⟨fun _ _ => rfl, fun _ _ => rfl, rfl, rfl⟩

/-- **Commit followed by stop + reopen changes no table read, no block-table read and no height**, on every
reachable node at a block boundary. -/
theorem C03.commit_then_reopen_reachable (n : Node) (hr : Reach n) (hw : n.lbi.waiting = 0) :
    (∀ i k, (n.commit.1.reopen.t i).latest k = (n.t i).latest k) ∧
    (∀ i k, (n.commit.1.reopen.b i).get k = (n.b i).get k) ∧
    n.commit.1.reopen.latestHeight = n.latestHeight ∧ n.commit.1.reopen.nextHeight = n.nextHeight ∧
    Reach n.commit.1.reopen := by
  obtain ⟨g, hs⟩ := hr.sim
  obtain ⟨h1, h2, h3⟩ := C03.reopen_after_commit n g hs hr.heightInv hw
  obtain ⟨_, _, _, _, h5, _, _, hr'⟩ := C03.commit_unobservable_reachable n hr hw
  refine ⟨h1, h2, h3, ?_, Reach.step .reopen hr' trivial⟩
  rw [commit_of_boundary hw] at h5 ⊢
  rw [← h5]; rfl

/-- **`clear_caches` / restart without commit = the state of the last commit**, on every reachable node, with the
plain logs `G` that `ReachG` carries along: `G.d i` is the log of table `i` as of the last commit point (it is set to
the current log by an accepted `commit` / `reorg` and by nothing else: `Node.Op.ghost_d`,
`Node.Op.ghost_d_commitPoint`), and after `clear` - likewise after stop + reopen - every table reads, for every key,
what that log says. `G.d` is also the `dur` component of the current log. -/
theorem C03.clear_is_last_commit_reachable (n : Node) (G : Ghost) (hr : ReachG n G) :
    (∀ i k, (n.clear.1.t i).latest k = (G.d i).read k) ∧
    (∀ i k, (n.reopen.t i).latest k = (G.d i).read k) ∧
    (∀ i k, (G.d i).read k = ((G.s i).dur k).latest) ∧
    n.clear.1.lbi = {} ∧ n.clear.1.latest = none ∧
    (∀ i k, (n.clear.1.b i).get k = (n.b i).db.get? k) ∧
    ReachG n.clear.1 G.clear := by
  obtain ⟨hread, hdur⟩ := hr.inv.core.clear_reads
  exact ⟨hread, hread, hdur, rfl, rfl, fun i k => BlockDb.get_clear (n.b i) k, ReachG.step .clear hr trivial trivial⟩

/-- **Uncommitted work is what is lost** (for every node, reachable or not): a call that is not a commit point
(anything but `commit` and `reorg`), whatever its arguments, recorded events and answer, writes caches only. After a
`clear` / restart the node is the one the `clear` would have produced without the call - up to the written-through
`max_block_number` row, which a finalise raises at once. In particular every table read, every block-table read and
both heights after the restart are those of the last commit point. -/
theorem C03.uncommitted_work_lost (n : Node) (op : Op) (hop : op.isCommitPoint = false) :
    ((op.run n).1.clear).1 = { (n.clear).1 with maxBlock := (op.run n).1.maxBlock } ∧
    (∀ i k, (((op.run n).1.clear).1.t i).latest k = ((n.clear).1.t i).latest k) ∧
    (∀ i k, (((op.run n).1.clear).1.b i).get k = ((n.clear).1.b i).get k) ∧
    ((op.run n).1.clear).1.latestHeight = (n.clear).1.latestHeight ∧
    ((op.run n).1.clear).1.nextHeight = (n.clear).1.nextHeight := by
  have e := (Op.run_clearEq op n hop).clear_eq
  refine ⟨e, ?_, ?_, ?_, ?_⟩
  · intro i k; rw [e]
  · intro i k; rw [e]
  · rw [e]; rfl
  · rw [e]; rfl

/-- **`HeightInv` holds on every reachable node, mid-block included**: the in-memory height, when present, is the
newest row of the hash table, and no block table binds a number twice. (Mid-block this rests on the model refusing
recorded block-table writes in a call that adds transactions: the engine writes those tables in `finalise_block`
only.) -/
theorem C03.heightInv_reachable (n : Node) (hr : Reach n) : HeightInv n := hr.heightInv

/-- **A call that adds transactions does not touch the block tables, the in-memory height or the highest finalised
block**, whatever its arguments, recorded events and answer (for every node). -/
theorem C03.transactions_leave_block_tables (n : Node) :
    (∀ ts h idx txid evs k, (n.addTxs ts h idx txid evs k).1.b = n.b ∧ (n.addTxs ts h idx txid evs k).1.latest = n.latest ∧
      (n.addTxs ts h idx txid evs k).1.maxBlock = n.maxBlock) ∧
    (∀ ts h idx txid d evs, (n.addRawTx ts h idx txid d evs).1.b = n.b ∧
      (n.addRawTx ts h idx txid d evs).1.latest = n.latest ∧ (n.addRawTx ts h idx txid d evs).1.maxBlock = n.maxBlock) :=
  ⟨fun ts h idx txid evs k => addTxs_block_frame n ts h idx txid evs k,
   fun ts h idx txid d evs => addRawTx_block_frame n ts h idx txid d evs⟩

namespace C03.Example
open Node.Example

/-- the node of `Node.Example` right before its final `commit`: genesis with a deployment, a parked transaction, one
block with a call, one mined block - nothing of blocks 1 and 2 committed yet -/
def pre : Node × Ghost := runOps (ops.take 5) ({}, Ghost.init)

theorem pre_reach : ReachG pre.1 pre.2 := reachG_runOps (ops.take 5) ReachG.init (okRun_take 5 ops_ok) (by decide)

/-- Non-vacuity of `C03.commit_unobservable_reachable`: it applies to that node ... -/
example : pre.1.commit.2 = .ok ∧
    (∀ i k, (pre.1.commit.1.t i).latest k = (pre.1.t i).latest k) ∧
    (∀ i k, (pre.1.commit.1.b i).get k = (pre.1.b i).get k) ∧
    pre.1.commit.1.latestHeight = pre.1.latestHeight ∧ pre.1.commit.1.nextHeight = pre.1.nextHeight := by
  obtain ⟨h1, h2, h3, h4, h5, _⟩ :=
    C03.commit_unobservable_reachable pre.1 pre_reach.reach (by rw [pre, pre_node]; decide)
  exact ⟨h1, h2, h3, h4, h5⟩

/-- ... on which the commit is not a no-op: rows move from the caches to the columns, the in-memory height is
dropped, and a restart before the commit would have lost blocks 1 and 2 (height 0 instead of 2). -/
example : (pre.1.t .account).cache ≠ [] ∧ (pre.1.commit.1.t .account).cache = [] ∧
    (pre.1.b .numberToHash).db.get? 2 = none ∧ (pre.1.commit.1.b .numberToHash).db.get? 2 = some h2 ∧
    pre.1.latest = some (2, h2) ∧ pre.1.commit.1.latest = none ∧
    pre.1.latestHeight = 2 ∧ pre.1.reopen.latestHeight = 0 ∧ pre.1.commit.1.reopen.latestHeight = 2 := by
  rw [pre, pre_node]
  decide +kernel

/-- the same history with a `commit` right after the genesis -/
def opsC : List Op := ops.take 1 ++ [.commit] ++ (ops.drop 1).take 4

def pre2 : Node × Ghost := runOps opsC ({}, Ghost.init)

-- `opsC` and `pre2` are `ReachCrashExample.opsC` and `st` of Proofs/Scenario.lean under a second name
theorem pre2_reach : ReachG pre2.1 pre2.2 := ReachCrashExample.st_reach

/-- Non-vacuity of `C03.clear_is_last_commit_reachable`: after a restart the `account` row reads what the log as of
the last commit (the genesis) says, not the value written in block 1; the height is back to 0. -/
example : (pre2.1.t .account).latest "aa" = some acct1 ∧ (pre2.1.reopen.t .account).latest "aa" = some acct0 ∧
    (pre2.2.d .account).read "aa" = some acct0 ∧ pre2.1.latestHeight = 2 ∧ pre2.1.reopen.latestHeight = 0 := by
  rw [← (C03.clear_is_last_commit_reachable pre2.1 pre2.2 pre2_reach).2.1 .account "aa",
    show pre2.1 = ReachCrashExample.stNode from ReachCrashExample.st_node]
  decide

/-- a call of block 1 whose recorded writes contain a hash row for the block under construction -/
def evCallRow : List Ev := evCall ++ [.s "block_number_to_hash" 1 "0000000000000001" (some "zz")]

/-- the node after the genesis -/
def gen : Node × Ghost := runOps [.initialise zeroHash 100 0 evGenesis] ({}, Ghost.init)

theorem gen_reach : ReachG gen.1 gen.2 :=
  reachG_runOps (ops.take 1) ReachG.init (okRun_take 1 ops_ok) (by decide)

/-- the node in the middle of block 1 (one transaction appended) -/
def mid : Node × Ghost :=
  runOps [.initialise zeroHash 100 0 evGenesis, .addTxs 200 zeroHash 0 (some "ab") evCall (some 1)] ({}, Ghost.init)

/-- the genesis and the calls of block 1 that the two examples below make on it, evaluated once (bundled for the reason
given at `Node.Example.ops_eval`) -/
theorem gen_eval :
    ((gen.1.addTxs 200 zeroHash 0 (some "ab") evCallRow (some 1)).2 = .reject "tx-wrote-block-table" ∧
      (gen.1.addTxs 200 zeroHash 0 (some "ab") evCallRow (some 1)).1.lbi = gen.1.lbi ∧
      (gen.1.addTxs 200 zeroHash 0 (some "ab") evCall (some 1)).2 = .ok) ∧
    mid.1.lbi.waiting = 1 ∧ mid.1.latest = some (0, h0) ∧ (mid.1.b .numberToHash).lastKey = some 0 := by
  decide +kernel

/-- **Why `addTxs` refuses recorded block-table writes** (`noBlockWrites`). Were a recorded `block_number_to_hash` write
stamped with the height being built accepted, the newest hash row (1) would be above the in-memory height (0):
`HeightInv` would fail mid-block. The engine's `add_tx_to_block` issues no block-table write; the model refuses such an
event list (`tx-wrote-block-table`) and leaves the node alone, while the same call without that write is accepted. -/
example : (gen.1.addTxs 200 zeroHash 0 (some "ab") evCallRow (some 1)).2 = .reject "tx-wrote-block-table" ∧
    (gen.1.addTxs 200 zeroHash 0 (some "ab") evCallRow (some 1)).1.lbi = gen.1.lbi ∧
    (gen.1.addTxs 200 zeroHash 0 (some "ab") evCall (some 1)).2 = .ok := gen_eval.1

theorem mid_reach : ReachG mid.1 mid.2 := by
  rw [show mid = runOps [.addTxs 200 zeroHash 0 (some "ab") evCall (some 1)] gen from runOps_append [_] _ _]
  exact reachG_runOps _ gen_reach (by simp only [okRun, Op.run, gen_eval.1.2.2, decide_true, Bool.and_self]) (by decide)

/-- Non-vacuity of `C03.heightInv_reachable` mid-block: a reachable node with a transaction in its block; the newest
hash row is the in-memory height. -/
example : Reach mid.1 ∧ mid.1.lbi.waiting = 1 ∧ mid.1.latest = some (0, h0) ∧
    (mid.1.b .numberToHash).lastKey = some 0 ∧ HeightInv mid.1 :=
  ⟨mid_reach.reach, gen_eval.2.1, gen_eval.2.2.1, gen_eval.2.2.2, C03.heightInv_reachable mid.1 mid_reach.reach⟩

end C03.Example

end Brc20
