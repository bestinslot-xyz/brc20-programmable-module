/-
C18 - eth_getLogs returns exactly the matching logs, in chain order.

`logsInRange f t` stands for the logs of the receipts of blocks `f ..= t` in (block, transaction index, log index)
order; that the scan delivers exactly those, complete and ordered, is C13 (`range_scan_complete/sorted`) applied to
the (block, index) keys, whose encoded order is the numeric order (C14 `composite_keys_order`).
-/
import Brc20.Model.Logs
import Brc20.Gen.Constants

namespace Brc20
open Logs

/-- The span `5` is a literal in the model (`rangeRefused`) and a literal in the source (`block_number_to -
block_number_from > 5`, src/db/brc20_prog_database.rs), from where tools/gen_constants.py takes it on every run: this
fails when the source changes it. -/
theorem C18.span_constant : Gen.GET_LOGS_MAX_SPAN = 5 := rfl

/-- **Exactly the matching logs, each once, in chain order**: the result is the in-range list filtered, so it is a
sublist (order kept, nothing duplicated) containing precisely the members that match. -/
theorem C18.get_logs_exact (latest : Nat) (f t : Option Nat) (addr : Option String) (topics : Option (List Pos))
    (src : Nat → Nat → List Log) (out : List Log) (h : getLogs latest f t addr topics src = some out) :
    out = (src (resolveRange latest f t).1 (resolveRange latest f t).2).filter (logMatches addr topics) ∧
    out.Sublist (src (resolveRange latest f t).1 (resolveRange latest f t).2) ∧
    ∀ l, l ∈ out ↔ (l ∈ src (resolveRange latest f t).1 (resolveRange latest f t).2 ∧ logMatches addr topics l = true) := by
  unfold getLogs at h
  simp only at h
  split at h
  · cases h
  · cases h
    exact ⟨rfl, List.filter_sublist, fun l => by simp [List.mem_filter]⟩

/-- **Range rule**: for heights below 2^63, a range is served iff `from ≤ to ≤ from + 5`; wider and reversed
ranges are refused. (In wrapping u64 arithmetic a reversed range with `from` within 5 of 2^64 would wrap to a small
number and be served - `from = 2^64 - 3, to = 0` - which is why the bound on heights is part of the statement.) -/
theorem C18.range_rule (f t : Nat) (hf : f < 2 ^ 63) (ht : t < 2 ^ 63) :
    rangeRefused f t = false ↔ (f ≤ t ∧ t ≤ f + 5) := by
  rw [rangeRefused, U64, decide_eq_false_iff_not]
  -- `omega` splits on whether the subtraction wraps
  omega

/-- Defaults: no `from` means the latest block, no `to` means `from` (a single block, always served). -/
theorem C18.defaults (latest : Nat) (hl : latest < 2 ^ 63) :
    resolveRange latest none none = (latest, latest) ∧ rangeRefused latest latest = false := by
  refine ⟨rfl, ?_⟩
  exact (C18.range_rule latest latest hl hl).mpr ⟨Nat.le_refl _, Nat.le_add_right ..⟩

/-! Filter semantics, position by position: a wildcard, a single topic, a list of alternatives. -/

theorem C18.wildcard_skips (lt : List String) (rest : List Pos) (i : Nat) :
    matchTopics lt (.any :: rest) i = matchTopics lt rest (i + 1) := rfl

theorem C18.single_is_equality (lt : List String) (t : String) (rest : List Pos) (i : Nat) :
    matchTopics lt (.one t :: rest) i = true ↔ (lt[i]? = some t ∧ matchTopics lt rest (i + 1) = true) := by
  simp only [matchTopics, Bool.and_eq_true]
  cases h : lt[i]? with
  | none => simp
  | some x => simp

theorem C18.list_is_any_of (lt : List String) (ts : List (Option String)) (rest : List Pos) (i : Nat) :
    matchTopics lt (.alts ts :: rest) i = true ↔
      ((∃ x, lt[i]? = some x ∧ some x ∈ ts) ∧ matchTopics lt rest (i + 1) = true) := by
  simp only [matchTopics, Bool.and_eq_true]
  cases h : lt[i]? with
  | none => simp
  | some x => simp [List.any_eq_true]

/-- A position beyond the log's topics fails unless it is a wildcard. -/
theorem C18.beyond_topics_fails (lt : List String) (p : Pos) (rest : List Pos) (i : Nat) (hi : lt.length ≤ i)
    (hp : match p with | .any => False | _ => True) : matchTopics lt (p :: rest) i = false := by
  have : lt[i]? = none := List.getElem?_eq_none hi
  cases p with
  | any => exact hp.elim
  | one t => simp only [matchTopics, this, Bool.false_and]
  | alts ts => simp only [matchTopics, this, Bool.false_and]

/-- No filter at all returns everything in range. -/
theorem C18.no_filter_all (l : Log) : logMatches none none l = true := rfl

example : matchTopics ["a", "b"] [.any, .alts [some "x", some "b"]] 0 = true := by decide
example : matchTopics ["a"] [.any, .one "b"] 0 = false := by decide

end Brc20
