/-
C17 - eth_call predicts what the same transaction will do.

The model checks two recorded environments against the node: the one of a simulation (`simEnvOk`) and the one of
a committed transaction (`envOk`).  On the same node the two agree on the six fields both checks prescribe
(`sharedFields`: block number, fees, value, coinbase, block gas limit - `env_sim_eq_env_tx`), and the simulation runs
with the caller's account nonce, which the engine gives the next transaction of that sender
(`sim_uses_account_nonce`).  Timestamp, randomness, gas limit and Bitcoin txid are the fields the property excludes.
Multi-call simulations: the nonce bookkeeping of a round hands every call the nonce it carries when the same calls are
submitted in the same order as transactions (`multi_nonces_eq_tx_nonces`), and a round the model accepts ran, call by
call, at the next height, with zero fees and that nonce (`accepted_round_env`, `read_ok_means_env_ok`).
The prediction itself (`prediction_for_any_evm`) has revm as a parameter: for every function of state view and
environment that ignores the four excluded fields, the outcome in the simulation's environment (`Node.simEnv`) is the
outcome in the next transaction's (`Node.txEnv`).  That revm is such a function is the parameter's contract; the
end-to-end claim (status and output equal, installed runtime code equal) is exercised on the real code by the
`call-prediction` oracle of suite E.

Tie: the recorded environment of *every* simulation that suite E makes without an explicit block -
`eth_call`, `eth_estimateGas` probes, `brc20_balance`, the `eth_call` made right before each predicted transaction,
and every call of every round of `eth_callMany` / `eth_estimateGasMany` - is sent to the model, which answers
`model-reject:sim-env` / `model-reject:simmulti-env` when height, caller nonce, fees, value, coinbase or block gas
limit differ from what it derives from its own node (`DriverE.readStep`).
-/
import Brc20.Model.Node
import Brc20.Model.DriverE
import Brc20.Proofs.Sim

namespace Brc20
open Node

theorem ite_reject_eq_ok {c : Prop} [Decidable c] {s : String} {x : Class} :
    (if c then Class.reject s else x) = .ok ↔ ¬ c ∧ x = .ok := by
  by_cases hc : c
  · simp [hc]
  · simp [hc]

/-- the fields of the EVM environment that the model compares -/
def sharedFields : List String := ["number", "basefee", "gasprice", "value", "coinbase", "blockgaslimit"]

/-- A simulation and the next transaction see the same block number, fees, value, coinbase and block gas limit. -/
theorem C17.env_sim_eq_env_tx (n : Node) (sim tx : List (String × String)) (ts : Nat) (hash : String)
    (hs : n.simEnvOk sim = true) (ht : envOk tx n.nextHeight ts hash none = true) :
    ∀ k ∈ sharedFields, field sim k = field tx k := by
  intro k hk
  simp only [simEnvOk, Bool.and_eq_true, beq_iff_eq, and_assoc] at hs
  simp only [envOk, Bool.and_eq_true, beq_iff_eq, and_assoc] at ht
  obtain ⟨snumber, _, sbasefee, sgasprice, svalue, scoinbase, slimit⟩ := hs
  obtain ⟨tnumber, _, _, tbasefee, tgasprice, tvalue, tcoinbase, _, tlimit⟩ := ht
  simp only [sharedFields, List.mem_cons, List.mem_nil_iff, or_false] at hk
  -- both sides equal the value the model prescribes for the field
  rcases hk with rfl | rfl | rfl | rfl | rfl | rfl
  · exact snumber.trans tnumber.symm
  · exact sbasefee.trans tbasefee.symm
  · exact sgasprice.trans tgasprice.symm
  · exact svalue.trans tvalue.symm
  · exact scoinbase.trans tcoinbase.symm
  · exact slimit.trans tlimit.symm

/-- The simulation runs with the caller's current account nonce - the nonce the engine gives the next inscription
transaction of that sender - so nonce-derived child addresses coincide. -/
theorem C17.sim_uses_account_nonce (n : Node) (sim : List (String × String)) (hs : n.simEnvOk sim = true) :
    field sim "nonce" = toString (n.accountNonce (field sim "caller")) := by
  simp only [simEnvOk, Bool.and_eq_true, beq_iff_eq, and_assoc] at hs
  obtain ⟨_, hnonce, _⟩ := hs
  exact hnonce

/-- Simulations never change the node (they are reads, C10), so the transaction that follows starts from the state
the simulation saw. -/
theorem C17.simulation_leaves_state (n : Node) : (n, Class.ok).1 = n := rfl

/-! ### Multi-call simulations (`eth_callMany`, `eth_estimateGasMany`) -/

/-- The nonce bookkeeping of `read_contract_multi` (a `HashMap` seeded with account nonces, bumped per call) hands
the `i`-th call its caller's account nonce plus the number of earlier calls of the round by the same caller. -/
theorem C17.multi_nonces_are_sequential (acct : String → Nat) (callers : List String) :
    roundNoncesImpl acct [] callers = roundNonces acct [] callers :=
  roundNoncesImpl_eq acct callers [] [] (noncesInv_empty acct)

theorem C17.round_nonce_at (acct : String → Nat) (callers : List String) :
    ∀ (seen : List String) (i : Nat) (h : i < callers.length),
      (roundNonces acct seen callers)[i]? = some (acct callers[i] + (seen.count callers[i] + (callers.take i).count callers[i])) := by
  induction callers with
  | nil => intro seen i h; simp at h
  | cons c cs ih =>
    intro seen i h
    cases i with
    | zero => simp [roundNonces]
    | succ j =>
      simp only [List.length_cons, Nat.add_lt_add_iff_right] at h
      simp only [roundNonces, List.getElem?_cons_succ, List.getElem_cons_succ, List.take_succ_cons]
      rw [ih (c :: seen) j h]
      simp only [List.count_cons]
      congr 2
      omega

/-! ### ... and these are the nonces the same calls get as transactions

Executing the calls one after the other as transactions: a transaction runs with its sender's current account nonce,
and (unless revm refuses it outright) bumps it by one, whether it succeeds or reverts. -/

/-- account nonces after a transaction of `c` -/
def bumpNonce (acct : String → Nat) (c : String) : String → Nat := fun x => if x = c then acct x + 1 else acct x

/-- the nonces the calls carry when they are executed in order as transactions -/
def seqTxNonces (acct : String → Nat) : List String → List Nat
  | [] => []
  | c :: cs => acct c :: seqTxNonces (bumpNonce acct c) cs

theorem roundNonces_eq_seq (acct : String → Nat) (cs seen : List String) :
    roundNonces acct seen cs = seqTxNonces (fun x => acct x + seen.count x) cs := by
  induction cs generalizing seen with
  | nil => rfl
  | cons c cs ih =>
    have : bumpNonce (fun x => acct x + seen.count x) c = fun x => acct x + (c :: seen).count x := by
      funext x
      by_cases h : x = c
      · subst h; simp [bumpNonce, Nat.add_assoc]
      · simp [bumpNonce, h, Ne.symm h]
    simp only [roundNonces, seqTxNonces, ih, this]

/-- **A multi-call simulation hands every call the nonce its transaction will carry** when the same calls are
submitted in the same order (each bumping its sender's nonce): nonce-derived child addresses coincide call by call. -/
theorem C17.multi_nonces_eq_tx_nonces (callers : List String) :
    ∀ acct : String → Nat, roundNoncesImpl acct [] callers = seqTxNonces acct callers := by
  intro acct
  rw [C17.multi_nonces_are_sequential]
  exact roundNonces_eq_seq acct callers []

/-- **An accepted multi-call read saw, call by call, the environment the transactions will see**: if the model
accepts the recorded runs of one complete round of `ncalls` calls (none refused by revm), then every call ran at the
height the next transaction is built at, with zero fees, and with nonce = its caller's account nonce + the number of
earlier calls of the round by the same caller. -/
theorem C17.accepted_round_env (n : Node) (ncalls : Nat) (runs : List (List (String × String) × Bool))
    (hok : ∀ r ∈ runs, r.2 = true) (hlen : runs.length ≤ ncalls)
    (hacc : n.simMultiOk ncalls runs = true) :
    ∀ (i : Nat) (h : i < runs.length),
      field runs[i].1 "number" = toString n.nextHeight ∧
      field runs[i].1 "basefee" = "0" ∧ field runs[i].1 "gasprice" = "0" ∧ field runs[i].1 "value" = "0" ∧
      field runs[i].1 "nonce" =
        toString (n.accountNonce (field runs[i].1 "caller") +
          ((runs.take i).map (fun r => field r.1 "caller")).count (field runs[i].1 "caller")) := by
  intro i h
  unfold simMultiOk at hacc
  rw [multiCheckAux_round n ncalls runs [] 0 [] (noncesInv_empty _) hok (by omega), List.all_eq_true] at hacc
  have hn := C17.round_nonce_at n.accountNonce (runs.map (fun r => field r.1 "caller")) [] i (by simpa using h)
  -- the `i`-th pair of the zip: the environment of run `i` and the nonce `roundNonces` hands it
  have := hacc (_, _) (List.mem_iff_getElem?.mpr ⟨i, List.getElem?_zip_eq_some.mpr
    ⟨List.getElem?_eq_getElem (by simpa using h), hn⟩⟩)
  simp only [simMultiEnvOk, Bool.and_eq_true, beq_iff_eq, and_assoc, List.getElem_map, List.count_nil, Nat.zero_add,
    ← List.map_take] at this
  obtain ⟨hnumber, hnonce, hbasefee, hgasprice, hvalue, _, _⟩ := this
  exact ⟨hnumber, hbasefee, hgasprice, hvalue, hnonce⟩

/-- A read whose recorded multi-call runs do not fit is refused by the model (this is what ties the statement above
to the code: suite E sends the runs of every `eth_callMany` / `eth_estimateGasMany`). -/
theorem C17.read_ok_means_env_ok (n : Node) (raw : List String) (evs : List Ev) (ncalls : Nat)
    (h : (DriverE.readStep n raw evs ncalls).2 = .ok) :
    (∀ fs ∈ simRuns evs, n.simEnvOk fs = true) ∧ n.simMultiOk ncalls (multiRuns evs) = true := by
  unfold DriverE.readStep at h
  simp only [ite_reject_eq_ok] at h
  obtain ⟨_, h2, h3, _⟩ := h
  exact ⟨by simpa using h2, by simpa using h3⟩

/-! ### The prediction itself, for any EVM

revm is a parameter: a function of the state view and the environment.  "Code that does not read the block timestamp,
randomness, remaining gas or the current Bitcoin transaction id" is an EVM whose outcome does not depend on those
four fields.  For every such function, the simulation's outcome is the transaction's outcome. -/

/-- the environment fields the engine fills in, as far as the two environments can differ in them or the prediction reads
them (base fee, gas price, value, coinbase and block gas limit agree on both sides: `C17.env_sim_eq_env_tx`) -/
structure Env where
  number : Nat
  caller : String
  target : String
  data : String
  nonce : Nat
  ts : Nat
  randomness : String
  gasLimit : Nat
  txid : String
  deriving DecidableEq

/-- environment of `eth_call` at a block boundary (`read_contract`): wall-clock timestamp `now`, zero randomness,
the call gas limit, zero txid -/
def Node.simEnv (n : Node) (caller target data : String) (now callGas : Nat) : Env :=
  { number := n.nextHeight, caller, target, data, nonce := n.accountNonce caller, ts := now,
    randomness := zeroHash, gasLimit := callGas, txid := zeroHash }

/-- environment of the transaction executed next (`add_tx_to_block` on a boundary node) -/
def Node.txEnv (n : Node) (caller target data : String) (ts : Nat) (hash : String) (allowance : Nat) (txid : String) : Env :=
  { number := n.nextHeight, caller, target, data, nonce := n.accountNonce caller, ts, randomness := hash,
    gasLimit := allowance, txid }

/-- an EVM (any function of state view and environment) whose outcome ignores the four excluded fields -/
def IgnoresExcluded {S O : Type} (evm : S → Env → O) : Prop :=
  ∀ s e ts r g t, evm s { e with ts := ts, randomness := r, gasLimit := g, txid := t } = evm s e

/-- **eth_call predicts the next transaction, for every EVM that ignores the excluded fields**: same node (C10: the
simulation did not change it), same sender, target and data. -/
theorem C17.prediction_for_any_evm {S O : Type} (evm : S → Env → O) (hev : IgnoresExcluded evm) (view : Node → S)
    (n : Node) (caller target data : String) (now callGas ts allowance : Nat) (hash txid : String) :
    evm (view n) (n.simEnv caller target data now callGas) =
      evm (view n) (n.txEnv caller target data ts hash allowance txid) := by
  have := hev (view n) (n.simEnv caller target data now callGas) ts hash allowance txid
  rw [← this]
  rfl

/-- non-vacuity: an EVM that returns (number, nonce, caller) - what NUMBER and the child-address derivation read -
ignores the excluded fields -/
example : IgnoresExcluded (fun (_ : Unit) (e : Env) => (e.number, e.nonce, e.caller)) := by
  intro s e ts r g t; rfl

end Brc20
