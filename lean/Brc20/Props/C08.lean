/-
C08 - Signed transactions execute once, in nonce order, via a bounded pending pool.

`addRawTx` is the model of `add_raw_tx_to_block`. The EVM's part of the contract - "a run that revm accepts
bumps the sender's nonce by exactly one" - is a hypothesis where needed; everything else is bookkeeping.

"`txpool_content` shows exactly the waiting set": the model checks, on the recorded events, that every entry the
drain loop visited has left the pending table (`drainCheck`, reject `drain-kept`) and that a finalise leaves no entry
parked 10 or more blocks ago (`poolFreshAt`, reject `expired-kept`): `C08.drained_entries_leave_pool`,
`C08.finalise_leaves_no_expired`, `C08.mine_leaves_no_expired`.

The pool invariant of EVERY reachable node (`C08.pool_rows_wellformed_reachable` and the theorems after it, proofs in
Proofs/Pool.lean): the model accepts a `set` of a row of the pending table only from a parked submission, only for the
submitted `(sender, nonce)` and only with the height being built as the block number inside the row (`parkedShape`,
reject `parked-shape`; `noPendingSet`, rejects `tx-set-pending` / `fin-set-pending`). Hence every readable row of a
reachable node - at a block boundary or not, after `commit`, `clear`, a restart or a `reorg` - was parked at most at
the height being built and fewer than 10 blocks before the latest block.
-/
import Brc20.Model.Node
import Brc20.Proofs.Node
import Brc20.Proofs.NodeRun
import Brc20.Proofs.Scenario
import Brc20.Proofs.Pool
import Brc20.Gen.Constants

namespace Brc20
open Node

theorem C08.constants : Gen.MAX_FUTURE_TRANSACTION_NONCES = Node.FUTURE_NONCES ∧
    Gen.MAX_FUTURE_TRANSACTION_BLOCKS = Node.FUTURE_BLOCKS := by decide

/-- Undecodable raw transactions are rejected without effect. -/
theorem C08.undecodable_rejected (n : Node) (ts : Nat) (h : String) (idx : Nat) (txid : String) (evs : List Ev) :
    n.addRawTx ts h idx txid .fail evs = (n, .err "decode") :=
  rfl

/-- Wrong-chain, stale (nonce below the account) and far-future (10 or more ahead) transactions leave the node
untouched and append nothing, whatever the response class. -/
theorem C08.ignored_noop (n : Node) (ts : Nat) (h : String) (idx : Nat) (txid : String) (sender : String) (nonce : Nat)
    (evs : List Ev) (hn : nonce < n.accountNonce sender ∨ n.accountNonce sender + FUTURE_NONCES ≤ nonce) :
    (n.addRawTx ts h idx txid (.ok sender nonce) evs).1 = n ∧ (n.addRawTx ts h idx txid .wrongChain evs).1 = n := by
  constructor
  · rcases addRawTx_cases n ts h idx txid (.ok sender nonce) evs with e | ⟨_, _, hd, h1, h2, _⟩ | ⟨_, _, hd, _⟩
    · exact e
    · cases hd; omega
    · cases hd; unfold FUTURE_NONCES at hn; omega
  · rcases addRawTx_cases n ts h idx txid .wrongChain evs with e | ⟨_, _, hd, _⟩ | ⟨_, _, hd, _⟩
    · exact e
    · cases hd
    · cases hd

/-- A transaction ahead of the account by fewer than 10 is parked: no EVM run is accepted for it, the block under
construction (count, gas, log index, header) is untouched, heights are untouched. -/
theorem C08.parked_leaves_block_untouched (n : Node) (ts : Nat) (h : String) (idx : Nat) (txid : String) (sender : String)
    (nonce : Nat) (evs : List Ev)
    (hn : n.accountNonce sender < nonce ∧ nonce < n.accountNonce sender + FUTURE_NONCES) :
    (n.addRawTx ts h idx txid (.ok sender nonce) evs).1.lbi = n.lbi ∧
    (n.addRawTx ts h idx txid (.ok sender nonce) evs).1.latest = n.latest ∧
    (n.addRawTx ts h idx txid (.ok sender nonce) evs).1.maxBlock = n.maxBlock := by
  rcases addRawTx_cases n ts h idx txid (.ok sender nonce) evs with e | ⟨_, _, _, _, _, _, _, _, ha, _⟩ | ⟨_, _, hd, _⟩
  · rw [e]; exact ⟨rfl, rfl, rfl⟩
  · exact applyEvents_fields ha
  · cases hd; omega

/-- Execution happens only at the account nonce: an accepted call whose transaction was run had
`nonce = account nonce` (so, with the EVM bumping the nonce by one per accepted run, on-chain nonces of a signer are
0, 1, 2, ... each once). -/
theorem C08.executes_only_at_account_nonce (n : Node) (ts : Nat) (h : String) (idx : Nat) (txid : String) (sender : String)
    (nonce : Nat) (evs : List Ev)
    (hrun : (n.addRawTx ts h idx txid (.ok sender nonce) evs).1.lbi.waiting ≠ n.lbi.waiting) :
    nonce = n.accountNonce sender := by
  rcases addRawTx_cases n ts h idx txid (.ok sender nonce) evs with e | ⟨_, _, _, _, _, _, _, _, ha, _⟩ | ⟨_, _, hd, _⟩
  · exact absurd (by rw [e]) hrun
  · exact absurd (by rw [(applyEvents_fields ha).1]) hrun
  · cases hd; rfl

/-- **Receipts = appended**: when the call is accepted at the account nonce, the number of transactions appended to
the block is exactly `1 +` the number of live waiting successors found in the pool, and they take consecutive
indexes starting at the submitted one. -/
theorem C08.appended_count (n : Node) (ts : Nat) (h : String) (txid : String) (sender : String) (evs : List Ev)
    (hok : (n.addRawTx ts h n.lbi.waiting txid (.ok sender (n.accountNonce sender)) evs).2 = .ok) :
    (n.addRawTx ts h n.lbi.waiting txid (.ok sender (n.accountNonce sender)) evs).1.lbi.waiting =
      n.lbi.waiting + 1 + (drainPlan n sender n.nextHeight FUTURE_NONCES (n.accountNonce sender + 1)).1 := by
  rw [addRawTx_exec] at hok ⊢
  obtain ⟨hok', he, _⟩ := drainCheck_ok hok
  rw [he]
  obtain ⟨_, n', a, hn⟩ := addTxs_accepted hok'
  rw [hn]
  simp only [bumpLbi_waiting, startLbi_waiting]
  rw [a.count _ rfl]
  omega

/-- An entry parked in block `pb` is live for the drain of block `bn` iff `bn < pb + 10` (window edge exact). -/
theorem C08.window_edge (pb bn : Nat) : decide (FUTURE_BLOCKS + pb > bn) = true ↔ bn < pb + 10 := by
  rw [decide_eq_true_iff]
  unfold FUTURE_BLOCKS
  omega

/-- The drain visits consecutive nonces and executes exactly the entries younger than 10 blocks; it never executes
more than it visits, and visits at most 10. -/
theorem C08.drain_bounds (n : Node) (sender : String) (bn fuel nonce : Nat) :
    (drainPlan n sender bn fuel nonce).1 ≤ (drainPlan n sender bn fuel nonce).2 ∧
    (drainPlan n sender bn fuel nonce).2 ≤ fuel := by
  induction fuel generalizing nonce with
  | zero => exact ⟨Nat.le_refl 0, Nat.le_refl 0⟩
  | succ fuel ih =>
    rw [drainPlan_succ]
    cases (n.t .pending).latest (sender ++ hexN 16 nonce) with
    | none => exact ⟨Nat.le_refl 0, Nat.zero_le _⟩
    | some v =>
      have := ih (nonce + 1)
      simp only []
      split <;> split <;> omega

/-- What the drain visits: the entries at the consecutive nonces `nonce, nonce + 1, ..` that have a row in the
pending table, up to the first gap (or 10 entries). -/
theorem C08.drain_visits_consecutive (n : Node) (sender : String) (bn fuel nonce : Nat) :
    (∀ k, k < (drainPlan n sender bn fuel nonce).2 →
      (n.t .pending).latest (sender ++ hexN 16 (nonce + k)) ≠ none) ∧
    ((drainPlan n sender bn fuel nonce).2 < fuel →
      (n.t .pending).latest (sender ++ hexN 16 (nonce + (drainPlan n sender bn fuel nonce).2)) = none) := by
  induction fuel generalizing nonce with
  | zero => simp [drainPlan]
  | succ fuel ih =>
    rw [drainPlan_succ]
    cases hl : (n.t .pending).latest (sender ++ hexN 16 nonce) with
    | none =>
      refine ⟨fun k hk => absurd hk (Nat.not_lt_zero k), fun _ => ?_⟩
      simpa using hl
    | some v =>
      obtain ⟨ih1, ih2⟩ := ih (nonce + 1)
      refine ⟨?_, ?_⟩
      · intro k hk
        cases k with
        | zero => rw [Nat.add_zero, hl]; simp
        | succ k =>
          have := ih1 k (by simpa using hk)
          rwa [Nat.add_assoc, Nat.add_comm 1 k] at this
      · intro hlt
        have := ih2 (by simpa using hlt)
        simp only []
        rwa [Nat.add_assoc, Nat.add_comm 1] at this

/-- **Drained entries leave the pool.** When a signed transaction at the account nonce is accepted, every waiting
successor the drain loop visited - executed, or skipped because it was parked 10 or more blocks ago - has no row in
the pending table (`account_and_nonce_to_tx_hash`) any more: `txpool_content` no longer shows it.
(The engine calls `remove_pending_tx` for each visited entry; the companion row in `pending_tx_hash_to_tx_id` is
not removed by the engine and nothing is claimed about it.) -/
theorem C08.drained_entries_leave_pool (n : Node) (ts : Nat) (h : String) (idx : Nat) (txid : String) (sender : String)
    (evs : List Ev)
    (hok : (n.addRawTx ts h idx txid (.ok sender (n.accountNonce sender)) evs).2 = .ok) :
    ∀ k, k < (drainPlan n sender n.nextHeight FUTURE_NONCES (n.accountNonce sender + 1)).2 →
      ((n.addRawTx ts h idx txid (.ok sender (n.accountNonce sender)) evs).1.t .pending).latest
        (sender ++ hexN 16 (n.accountNonce sender + 1 + k)) = none := by
  rw [addRawTx_exec] at hok ⊢
  obtain ⟨_, he, hg⟩ := drainCheck_ok hok
  rw [he]
  exact drainGone_spec hg

/-- A model answer `ok` for a call whose recorded events keep a drained entry is impossible: such a call is
rejected as not fitting the engine (`drain-kept`), with the node left alone. -/
theorem C08.kept_drained_entry_rejected (n : Node) (ts : Nat) (h : String) (idx : Nat) (txid : String) (sender : String)
    (evs : List Ev) (k : Nat)
    (hk : k < (drainPlan n sender n.nextHeight FUTURE_NONCES (n.accountNonce sender + 1)).2)
    (hadd : (n.addTxs ts h idx (some txid) evs
      (some (1 + (drainPlan n sender n.nextHeight FUTURE_NONCES (n.accountNonce sender + 1)).1))).2 = .ok)
    (hkept : ((n.addTxs ts h idx (some txid) evs
      (some (1 + (drainPlan n sender n.nextHeight FUTURE_NONCES (n.accountNonce sender + 1)).1))).1.t .pending).latest
        (sender ++ hexN 16 (n.accountNonce sender + 1 + k)) ≠ none) :
    n.addRawTx ts h idx txid (.ok sender (n.accountNonce sender)) evs = (n, .reject "drain-kept") := by
  rw [addRawTx_exec]
  rcases drainCheck_cases n sender (n.accountNonce sender + 1)
    (drainPlan n sender n.nextHeight FUTURE_NONCES (n.accountNonce sender + 1)).2
    (n.addTxs ts h idx (some txid) evs
      (some (1 + (drainPlan n sender n.nextHeight FUTURE_NONCES (n.accountNonce sender + 1)).1))) with ⟨_, hg⟩ | ⟨_, e⟩
  · exact absurd (drainGone_spec (hg hadd) k hk) hkept
  · exact e

/-- **A finalise leaves no expired entry in the pool.** After an accepted finalise of block `bn` (the new latest
height), every row of the pending table carries the number `pb` of the block it was parked in, and
`bn < pb + 10`: it was parked fewer than 10 blocks ago. (`clear_txpool(bn)` removes every entry without a block
number or with `pb + 10 <= bn`.) -/
theorem C08.finalise_leaves_no_expired (n : Node) (ts : Nat) (h : String) (count : Nat) (evs : List Ev)
    (hok : (n.finaliseOne ts h count evs).2 = .ok) :
    (n.finaliseOne ts h count evs).1.latestHeight = n.nextHeight ∧
    ∀ k v, ((n.finaliseOne ts h count evs).1.t .pending).latest k = some v →
      ∃ pb, parkedBlock v = some pb ∧ (n.finaliseOne ts h count evs).1.latestHeight < pb + 10 := by
  obtain ⟨_, n', f, hn⟩ := finaliseOne_accepted hok
  rw [hn, finalised_latestHeight, finalised_t]
  exact ⟨rfl, poolFreshAt_spec f.fresh⟩

/-- the same for `mine`: after an accepted `mine` of at least one block, no pool entry is 10 or more blocks old -/
theorem C08.mine_leaves_no_expired (n : Node) (count ts : Nat) (evs : List Ev) (hc : 0 < count)
    (hok : (n.mine count ts evs).2 = .ok) :
    ∀ k v, ((n.mine count ts evs).1.t .pending).latest k = some v →
      ∃ pb, parkedBlock v = some pb ∧ (n.mine count ts evs).1.latestHeight < pb + 10 := by
  rcases mine_cases n count ts evs with e | e | ⟨_, _, e⟩
  · rw [e] at hok; cases hok
  · rw [e] at hok; cases hok
  · obtain ⟨c, rfl⟩ : ∃ c, count = c + 1 := ⟨count - 1, by omega⟩
    rw [e] at hok ⊢
    obtain ⟨m, fevs, hfin, e1⟩ := mineLoop_ok_last hok
    rw [e1]
    exact (C08.finalise_leaves_no_expired m ts zeroHash 0 fevs hfin).2

/-- **A parked submission must record the writes of `set_pending_tx`, with the height being built inside the row**
(`parkedShape`). Were any pending-pool writes accepted from a parked submission, a reachable node could hold a row
without a block number between finalises (the recorded events below: one write, of a row `"77"` in which `parkedBlock`
finds no block number). The model rejects these events, and leaves the node alone. -/
example : (({} : Node).addRawTx 150 zeroHash 0 "cd" (.ok "aa" 1)
      [.s "account_and_nonce_to_tx_hash" 0 "aa0000000000000001" (some "77")]) = ({}, .reject "parked-shape") ∧
    parkedBlock "77" = none ∧
    ¬ (({} : Node).addRawTx 150 zeroHash 0 "cd" (.ok "aa" 1)
      [.s "account_and_nonce_to_tx_hash" 0 "aa0000000000000001" (some "77")]).2.accepted := by
  have h : (({} : Node).addRawTx 150 zeroHash 0 "cd" (.ok "aa" 1)
      [.s "account_and_nonce_to_tx_hash" 0 "aa0000000000000001" (some "77")]) = ({}, .reject "parked-shape") := by
    decide +kernel
  refine ⟨h, by decide, ?_⟩
  rw [h]
  exact fun x => x

namespace C08.Example

/-- a parked transaction row as far as the model reads it: hash, nonce 1, block hash, `Some(0)`: parked in block 0 -/
def row : String :=
  "0000000000000000000000000000000000000000000000000000000000000077" ++ "0000000000000001" ++
  "0000000000000000000000000000000000000000000000000000000000000001" ++ "01" ++ "0000000000000000"

/-- sender `aa` (account nonce 0) with nonce 1 parked in block 0 -/
def parked : Node :=
  (({} : Node).addRawTx 100 zeroHash 0 "cd" (.ok "aa" 1)
    [.s "pending_tx_hash_to_tx_id" 0 "77" (some "cd"), .s "account_and_nonce_to_tx_hash" 0 "aa0000000000000001" (some row)]).1

def env : List (String × String) :=
  [("number", "0"), ("ts", "100"), ("prevrandao", generatedHash 0), ("basefee", "0"), ("gasprice", "0"), ("value", "0"),
   ("coinbase", "0000000000000000000000000000000000000000"), ("txid", "ab"), ("blockgaslimit", "18446744073709551615")]

/-- nonce 0 arrives: two runs (the submitted transaction and the drained successor), the account row after them -/
def evRuns : List Ev :=
  [ .x "tx" env true true 21000 0, .x "tx" env true true 21000 0,
    .s "account" 0 "aa" (some "a2") ]

/-- The parked submission and the two submissions of nonce 0 made on `parked`, evaluated once (why:
`Node.Example.ops_eval`): reading the block number out of `row` is the dear part of each of them. -/
theorem parked_eval :
    (drainPlan parked "aa" parked.nextHeight FUTURE_NONCES (parked.accountNonce "aa" + 1) = (1, 1) ∧
      (parked.t .pending).latest "aa0000000000000001" = some row ∧
      (parked.addRawTx 100 zeroHash 0 "ab" (.ok "aa" 0)
        (evRuns ++ [.s "account_and_nonce_to_tx_hash" 0 "aa0000000000000001" none])).2 = .ok ∧
      (parked.addRawTx 100 zeroHash 0 "ab" (.ok "aa" 0)
        (evRuns ++ [.s "account_and_nonce_to_tx_hash" 0 "aa0000000000000001" none])).1.lbi.waiting = 2 ∧
      ((parked.addRawTx 100 zeroHash 0 "ab" (.ok "aa" 0)
        (evRuns ++ [.s "account_and_nonce_to_tx_hash" 0 "aa0000000000000001" none])).1.t .pending).latest
          "aa0000000000000001" = none ∧
      parked.addRawTx 100 zeroHash 0 "ab" (.ok "aa" 0) evRuns = (parked, .reject "drain-kept")) ∧
    (Op.addRawTx 100 zeroHash 0 "cd" (.ok "aa" 1)
      [.s "pending_tx_hash_to_tx_id" 0 "77" (some "cd"),
       .s "account_and_nonce_to_tx_hash" 0 "aa0000000000000001" (some row)]).run {} = (parked, .ok) ∧
    parkedBlock row = some 0 ∧ parked.nextHeight = 0 ∧ parked.latestHeight = 0 := by
  decide +kernel

/-- Non-vacuity: the drain visits and executes one entry. With the recorded `remove_pending_tx` the call is accepted,
two transactions are appended and the entry has left the pool; without it (an engine that forgets the removal) the
same call is rejected as `drain-kept` and the node is left alone (the case of `C08.kept_drained_entry_rejected`). -/
example : drainPlan parked "aa" parked.nextHeight FUTURE_NONCES (parked.accountNonce "aa" + 1) = (1, 1) ∧
    (parked.t .pending).latest "aa0000000000000001" = some row ∧
    (parked.addRawTx 100 zeroHash 0 "ab" (.ok "aa" 0)
      (evRuns ++ [.s "account_and_nonce_to_tx_hash" 0 "aa0000000000000001" none])).2 = .ok ∧
    (parked.addRawTx 100 zeroHash 0 "ab" (.ok "aa" 0)
      (evRuns ++ [.s "account_and_nonce_to_tx_hash" 0 "aa0000000000000001" none])).1.lbi.waiting = 2 ∧
    ((parked.addRawTx 100 zeroHash 0 "ab" (.ok "aa" 0)
      (evRuns ++ [.s "account_and_nonce_to_tx_hash" 0 "aa0000000000000001" none])).1.t .pending).latest
        "aa0000000000000001" = none ∧
    parked.addRawTx 100 zeroHash 0 "ab" (.ok "aa" 0) evRuns = (parked, .reject "drain-kept") :=
  parked_eval.1

/-- Non-vacuity of the pool invariant: `parked` is reachable, its pool holds the row, the row carries block 0 = the
height being built. -/
example : Reach parked ∧ (parked.t .pending).latest "aa0000000000000001" = some row ∧
    parkedBlock row = some 0 ∧ parked.nextHeight = 0 ∧ parked.latestHeight = 0 :=
  ⟨Reach.of_run _ Reach.init parked_eval.2.1, parked_eval.1.2.1, parked_eval.2.2⟩

/-- the same submission with a row that carries another block number (`Some(1)` while block 0 is being built) is
rejected -/
example : (({} : Node).addRawTx 100 zeroHash 0 "cd" (.ok "aa" 1)
    [.s "pending_tx_hash_to_tx_id" 0 "77" (some "cd"),
     .s "account_and_nonce_to_tx_hash" 0 "aa0000000000000001"
       (some ("0000000000000000000000000000000000000000000000000000000000000077" ++ "0000000000000001" ++
          "0000000000000000000000000000000000000000000000000000000000000001" ++ "01" ++ "0000000000000001"))]).2 =
    .reject "parked-shape" := by decide +kernel

end C08.Example

/-! ### The pool of every reachable node (`Node.Reach`, Proofs/Ops.lean) -/

/-- **The pool invariant, for every reachable node** (at a block boundary or mid-block; after `commit`, `clear`, a
restart, `reorg`): every row `txpool_content` shows carries the number `pb` of the block it was parked in, `pb` is at
most the height being built, and the latest block is fewer than `MAX_FUTURE_TRANSACTION_BLOCKS` = 10 blocks after
`pb`. (Right after a parked submission `pb = nextHeight`; right after a finalise `pb ≤ latestHeight`.) -/
theorem C08.pool_rows_wellformed_reachable {n : Node} (h : Reach n) (k v : String)
    (hl : (n.t .pending).latest k = some v) :
    ∃ pb, parkedBlock v = some pb ∧ pb ≤ n.nextHeight ∧ n.latestHeight < pb + 10 := by
  obtain ⟨pb, h1, h2, _, h4⟩ := h.pool_rows hl
  exact ⟨pb, h1, h2, h4⟩

/-- the same, in terms of the latest block only: a row was parked in one of the 10 blocks
`latestHeight - 8 .. latestHeight + 1` -/
theorem C08.pool_rows_window_reachable {n : Node} (h : Reach n) (k v : String)
    (hl : (n.t .pending).latest k = some v) :
    ∃ pb, parkedBlock v = some pb ∧ pb ≤ n.latestHeight + 1 ∧ n.latestHeight < pb + 10 := by
  obtain ⟨pb, h1, h2, h3⟩ := C08.pool_rows_wellformed_reachable h k v hl
  exact ⟨pb, h1, by rw [latestHeight_eq_pred]; omega, h3⟩

/-- **What comes back after a `clear` / restart is well-formed too**: the committed rows (the value column) of a
reachable node, relative to the heights a restart continues at. -/
theorem C08.pool_rows_wellformed_durable {n : Node} (h : Reach n) (k v : String)
    (hl : (n.t .pending).db.get? k = some v) :
    ∃ pb, parkedBlock v = some pb ∧ pb ≤ n.durNext ∧ n.durLatest < pb + 10 := by
  have hc : Reach (n.clear).1 := Reach.step .clear h trivial
  exact C08.pool_rows_wellformed_reachable hc k v hl

/-- **After an accepted `reorg` to `target`** every pool row was parked at most in block `target + 1` and fewer than
10 blocks before `target`: a rollback restores only rows that were live at the end of block `target`. -/
theorem C08.pool_rows_after_reorg {n : Node} (h : Reach n) (target : Nat) (hok : (n.reorg target).2 = .ok)
    (k v : String) (hl : ((n.reorg target).1.t .pending).latest k = some v) :
    ∃ pb, parkedBlock v = some pb ∧ pb ≤ target + 1 ∧ target < pb + 10 := by
  have hr2 : Reach (n.reorg target).1 :=
    Reach.step (.reorg target) h (by show (n.reorg target).2.accepted; rw [hok]; trivial)
  obtain ⟨pb, h1, h2, h3⟩ := C08.pool_rows_wellformed_reachable hr2 k v hl
  obtain ⟨G, r⟩ := h.inv
  obtain ⟨e1, _, e2, _⟩ := r.core.reorg_heights hok
  exact ⟨pb, h1, by omega, by omega⟩

/-- **Every version the pending table keeps carries its own stamp**: in the cache and in the history column of a
reachable node every entry `(b, Some(tx))` of every key has `tx.block_number = Some(b)` - the stamp of the write is
the height being built, which is the block number `add_raw_tx_to_block` puts into the transaction. -/
theorem C08.pool_versions_carry_their_stamp {n : Node} (h : Reach n) (k : String) (hist : Hist String)
    (hk : (n.t .pending).cache.get? k = some hist ∨ (n.t .pending).cdb.get? k = some hist) (b : Nat) (v : String)
    (hm : (b, some v) ∈ hist) : parkedBlock v = some b := by
  rcases hk with hc | hc
  · have := h.pinv.ok.eff k
    rw [show (n.t .pending).retrieve k = hist from Table.eff_cached hc] at this
    exact this.mem hm
  · have := h.pinv.ok.disk k
    rw [Table.disk_of_cdb hc] at this
    exact this.mem hm

/-- Transactions (inscription transactions, deposits, the executed path of a signed transaction with its drained
successors) and finalises (`clear_txpool`) only remove rows. -/
theorem C08.pool_rows_only_removed (n : Node) (ts : Nat) (h : String) (idx : Nat) (txid : Option String)
    (evs : List Ev) (kk : Option Nat) (count : Nat) (k v : String) :
    (((n.addTxs ts h idx txid evs kk).1.t .pending).latest k = some v → (n.t .pending).latest k = some v) ∧
    (((n.finaliseOne ts h count evs).1.t .pending).latest k = some v → (n.t .pending).latest k = some v) := by
  constructor
  · intro hl
    by_cases hok : (n.addTxs ts h idx txid evs kk).2 = .ok
    · obtain ⟨_, n', a, hn⟩ := addTxs_accepted hok
      rw [hn] at hl
      exact applyEvents_pending_removed a.noPendingSet a.applied hl
    · rwa [addTxs_fst_of_ne_ok hok] at hl
  · intro hl
    by_cases hok : (n.finaliseOne ts h count evs).2 = .ok
    · obtain ⟨_, n', f, hn⟩ := finaliseOne_accepted hok
      rw [hn] at hl
      exact applyEvents_pending_removed f.noPendingSet f.applied hl
    · rwa [finaliseOne_fst_of_ne_ok hok] at hl

/-- **Rows come from parked signed submissions only.** A row readable after `add_raw_tx_to_block` was readable
before, or it is the row of the submitted `(sender, nonce)`, the nonce is ahead of the account nonce by fewer than
`MAX_FUTURE_TRANSACTION_NONCES` = 10, and the row carries the height being built. -/
theorem C08.pool_row_from_parked_submission (n : Node) (ts : Nat) (h : String) (idx : Nat) (txid : String)
    (dec : RawDecode) (evs : List Ev) (k v : String)
    (hl : ((n.addRawTx ts h idx txid dec evs).1.t .pending).latest k = some v) :
    (n.t .pending).latest k = some v ∨
    ∃ sender nonce, dec = .ok sender nonce ∧ k = sender ++ hexN 16 nonce ∧
      n.accountNonce sender < nonce ∧ nonce < n.accountNonce sender + 10 ∧
      parkedBlock v = some n.nextHeight := by
  rcases addRawTx_cases n ts h idx txid dec evs with e | ⟨sender, nonce, hd, hlo, hhi, _, _, hs, ha, _⟩ | ⟨_, kk, _, _, e⟩
  · rw [e] at hl; exact .inl hl
  · refine (applyEvents_pending_latest ha hl).imp_right fun hm => ?_
    obtain ⟨hk, v', e1, hv⟩ := parkedShape_spec hs hm
    cases e1
    exact ⟨sender, nonce, hd, hk, hlo, hhi, hv⟩
  · rw [e] at hl; exact .inl ((C08.pool_rows_only_removed n ts h idx (some txid) evs kk 0 k v).1 hl)

/-- a recorded `set` of a pending-table row by a transaction or a finalise is rejected -/
theorem C08.tx_set_pending_rejected (n : Node) (ts : Nat) (h : String) (idx : Nat) (txid : Option String)
    (evs : List Ev) (kk : Option Nat) (count : Nat) (st : Nat) (k v : String)
    (hm : Ev.s TId.pending.name st k (some v) ∈ evs) :
    (n.addTxs ts h idx txid evs kk).2 ≠ .ok ∧ (n.finaliseOne ts h count evs).2 ≠ .ok :=
  ⟨fun hok => have ⟨_, _, a, _⟩ := addTxs_accepted hok; noPendingSet_not_mem a.noPendingSet hm,
   fun hok => have ⟨_, _, f, _⟩ := finaliseOne_accepted hok; noPendingSet_not_mem f.noPendingSet hm⟩

end Brc20
