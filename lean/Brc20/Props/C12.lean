/-
C12 - Without credentials nobody can drive the indexer interface.

Model: `Model/Auth.lean`, the decisions of src/server/auth.rs: the HTTP layer marks a request that carries the expected
header (`marked`; it never rejects), the RPC layer refuses the protected methods of an unmarked request - as a single
call, as a notification, and entry by entry in a batch.  The theorems of the first part hold for any deny list.
Tie: `Gen/Methods.lean`, regenerated on every run - the `#[method(name = ..)]` table of the API trait,
`INDEXER_METHODS`, the methods whose handler reaches a state-changing entry point of the engine, and the method table
of the running module - checked against each other in the second part; suite A asks the real HTTP server (header
variants, batches, notifications).
Not covered: the HTTP stack itself; the WebSocket upgrade is not exercised.
-/
import Brc20.Model.Auth
import Brc20.Gen.Methods

namespace Brc20
open Auth

/-- Without the exact expected header, an enabled configuration never marks the request. -/
theorem C12.wrong_header_unmarked (c : Cfg) (h : Option String) (he : c.enabled = true) (hh : h ≠ some c.expected) :
    marked c h = false := by
  unfold marked
  cases h with
  | none => simp [he]
  | some x =>
    have : x ≠ c.expected := fun e => hh (by rw [e])
    simp [he, this]

/-- **An unmarked request never reaches a protected method**: as a single call (401), as a notification (dropped),
or as any entry at any position of a batch (401), however the batch mixes it with permitted calls. -/
theorem C12.unauth_cannot_reach_protected (deny : List String) (method : String) (hd : method ∈ deny) :
    serveCall deny false method = .unauthorized ∧ serveNotification deny false method = .dropped ∧
    ∀ (pre post : List Entry) (e : Entry), (e = .call method ∨ e = .notification method) →
      (serveBatch deny false (pre ++ e :: post))[pre.length]? = some .unauthorized := by
  refine ⟨by simp [serveCall, allow, hd], by simp [serveNotification, allow, hd], ?_⟩
  intro pre post e he
  simp only [serveBatch, List.map_append, List.map_cons]
  rw [List.getElem?_append_right (by simp)]
  rcases he with rfl | rfl <;> simp [serveBatchEntry, allow, hd]

/-- No entry of an unauthorised batch that is forwarded names a protected method. -/
theorem C12.batch_forwards_only_public (deny : List String) (b : List Entry) (i : Nat) (method : String)
    (hi : b[i]? = some (.call method) ∨ b[i]? = some (.notification method))
    (hf : (serveBatch deny false b)[i]? = some .forwarded) : method ∉ deny := by
  intro hd
  simp only [serveBatch, List.getElem?_map] at hf
  rcases hi with h | h <;> simp [h, serveBatchEntry, allow, hd] at hf

/-- **Public methods keep working** without credentials, in every form. -/
theorem C12.public_always_forwarded (deny : List String) (m : Bool) (method : String) (hn : method ∉ deny) :
    serveCall deny m method = .forwarded ∧ serveNotification deny m method = .forwarded ∧
    serveBatchEntry deny m (.call method) = .forwarded := by
  simp [serveCall, serveNotification, serveBatchEntry, allow, hn]

/-- **With the correct credentials (or with authentication off) every method works.** -/
theorem C12.authorised_all_forwarded (c : Cfg) (deny : List String) (method : String)
    (h : c.enabled = false ∨ True) :
    serveCall deny (marked c (some c.expected)) method = .forwarded ∧
    (c.enabled = false → ∀ hdr, serveCall deny (marked c hdr) method = .forwarded) := by
  constructor
  · simp [serveCall, allow, marked]
  · intro he hdr
    simp [serveCall, allow, marked, he]

/-! ### The tie to the source: regenerated method tables -/

/-- **Every method that can mutate state is on the protected list** (handlers that reach `mine_blocks`,
`add_tx_to_block`, `add_raw_tx_to_block`, `initialise`, `finalise_block`, `reorg`, `commit_to_db`, `clear_caches`,
extracted from the source on every run). -/
theorem C12.deny_complete : Gen.mutating.all (fun m => Gen.denyList.contains m) = true := by decide +kernel

/-- Everything on the protected list is a registered method (no typo protects nothing). -/
theorem C12.deny_registered : Gen.denyList.all (fun m => Gen.registered.contains m) = true := by decide +kernel

theorem C12.running_perm : (Gen.running.getD Gen.registered).Perm Gen.registered :=
  -- evaluated once, here, and not where it is used: comparing string literals is slow in the kernel
  List.isPerm_iff.mp (by decide +kernel)

/-- The method table of the running module is the one read from the source (a method registered by other means
would show up here). -/
theorem C12.registered_is_running :
    (match Gen.running with
     | some r => r.all (fun m => Gen.registered.contains m) && Gen.registered.all (fun m => r.contains m)
     | none => true) = true := by
  have h := C12.running_perm
  generalize Gen.running = o at h
  cases o with
  | none => rfl
  | some r =>
    replace h : r.Perm Gen.registered := h
    simp only [List.all_eq_true, List.contains_iff_mem, Bool.and_eq_true, h.mem_iff]
    exact ⟨fun _ hx => hx, fun _ hx => hx⟩

/-- The set of state-changing methods is the one the engine model knows (a new mutating RPC fails here until it is
modelled). -/
theorem C12.mutating_known : Gen.mutating = ["brc20_mine", "brc20_deploy", "brc20_call", "brc20_transact",
    "brc20_deposit", "brc20_withdraw", "brc20_initialise", "brc20_finaliseBlock", "brc20_reorg",
    "brc20_commitToDatabase", "brc20_clearCaches"] := rfl

/-! Non-vacuity -/
example : serveBatch ["brc20_mine"] false [.call "eth_blockNumber", .call "brc20_mine", .malformed]
    = [.forwarded, .unauthorized, .forwarded] := by decide

end Brc20
