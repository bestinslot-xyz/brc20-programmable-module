/-
C02 - Replicas fed the same call history agree byte for byte.

Three ingredients: (1) the consensus constants of the source are pinned for protocol version 2 - regenerated on
every run and compared as a whole table by the kernel; (2) no result depends on the iteration order of an
in-memory `HashMap` (C13: scans are determined by the readable map alone); (3) the model is a function of the call
history by construction - no theorem states it (no wall-clock, no randomness: the only time-dependent field, the
block processing time, is not part of it).
On the real code: twin instances with different hash seeds and commit schedules, and pinned observation digests.
-/
import Brc20.Gen.Constants
import Brc20.Props.C13
import Brc20.Proofs.ReachProps

namespace Brc20

/-- **Consensus constants pinned for protocol version 2**: gas per byte, precompile gas prices, window and pool
sizes, fork heights, chain ids, call-data limit, block size, estimate floor, log span. -/
theorem C02.constants_pinned : Gen.PROTOCOL_VERSION = 2 →
    Gen.allConsts = [("BATCH_REQUEST_LIMIT_DEFAULT", 50), ("CALLDATA_LIMIT", 1048576), ("CHAIN_ID", 284847977008),
      ("CHAIN_ID_TESTNETS", 72921082114163), ("DB_VERSION", 7), ("ESTIMATE_LOWER_GAS_LIMIT", 21000),
      ("EVM_CALL_GAS_LIMIT", 1000000000), ("GAS_PER_BIP_322_VERIFY", 20000), ("GAS_PER_BITCOIN_RPC_CALL", 400000),
      ("GAS_PER_BYTE", 12000), ("GAS_PER_LOCKED_PKSCRIPT", 20000), ("GAS_PER_OP_RETURN_TX_ID", 40),
      ("GET_LOGS_MAX_SPAN", 5), ("MAX_BLOCK_SIZE", 4194304), ("MAX_FUTURE_TRANSACTION_BLOCKS", 10),
      ("MAX_FUTURE_TRANSACTION_NONCES", 10), ("MAX_REORG_HISTORY_SIZE", 10), ("MAX_REQUEST_SIZE_DEFAULT", 10485760),
      ("MAX_RESPONSE_SIZE_DEFAULT", 104857600), ("PRAGUE_ACTIVATION_HEIGHT_MAINNET", 923369),
      ("PRAGUE_ACTIVATION_HEIGHT_SIGNET", 275000), ("PROTOCOL_VERSION", 2), ("RLP_HASH_ACTIVATION_HEIGHT_MAINNET", 929000),
      ("RLP_HASH_ACTIVATION_HEIGHT_SIGNET", 0)] :=
  fun _ => rfl

/-- The indexer / invalid addresses and the five helper-contract addresses are pinned too. -/
theorem C02.addresses_pinned : Gen.PROTOCOL_VERSION = 2 →
    Gen.allAddrs = [("BIP322_PRECOMPILE_ADDRESS", "0x00000000000000000000000000000000000000fe"),
      ("BTC_TX_DETAILS_PRECOMPILE_ADDRESS", "0x00000000000000000000000000000000000000fd"),
      ("GET_LOCKED_PK_SCRIPT_PRECOMPILE_ADDRESS", "0x00000000000000000000000000000000000000fb"),
      ("GET_OP_RETURN_TX_ID_PRECOMPILE_ADDRESS", "0x00000000000000000000000000000000000000fa"),
      ("INDEXER_ADDRESS", "0x0000000000000000000000000000000000003ca6"),
      ("INVALID_ADDRESS", "0x000000000000000000000000000000000000dead"),
      ("LAST_SAT_LOCATION_PRECOMPILE_ADDRESS", "0x00000000000000000000000000000000000000fc")] :=
  fun _ => rfl

/-- List-valued results do not depend on hash-map iteration order: two tables that read the same (e.g. two
replicas, whatever order their in-memory maps iterate in, wherever they committed) return the same scan. -/
theorem C02.scans_replica_independent {K V : Type} [DecidableEq K] [DecidableEq V] {lt : K → K → Bool}
    (st : Table.StrictTotal lt) {t t' : Table K V}
    (hc : AMap.Nodup t.cache) (hd : AMap.Nodup t.db) (hc' : AMap.Nodup t'.cache) (hd' : AMap.Nodup t'.db)
    (hl : ∀ k, t.latest k = t'.latest k) (lo hi : K) : t.getRange lt lo hi = t'.getRange lt lo hi :=
  C13.range_scan_order_independent st hc hd hc' hd' hl lo hi

/-- **The same for every pair of reachable nodes** (two replicas, whatever calls, recorded events, commit schedules
and in-memory iteration orders led to them); the duplicate-freeness hypotheses are discharged from reachability
(`Node.Reach.table_nodup`). -/
theorem C02.scans_replica_independent_reachable {lt : String → String → Bool} (st : Table.StrictTotal lt)
    (n n' : Node) (hr : Node.Reach n) (hr' : Node.Reach n') (i : TId)
    (hl : ∀ k, (n.t i).latest k = (n'.t i).latest k) (lo hi : String) :
    (n.t i).getRange lt lo hi = (n'.t i).getRange lt lo hi :=
  C02.scans_replica_independent st (hr.table_nodup i).2 (hr.table_nodup i).1 (hr'.table_nodup i).2
    (hr'.table_nodup i).1 hl lo hi

end Brc20
