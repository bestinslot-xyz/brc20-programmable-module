/-
C01 - An accepted reorg restores exactly the state as of the chosen block.

Acceptance rule and restoration, at the level of the engine model.  `g i` is the plain per-key write log of table
`i` (`NodeSim`).  The window hypothesis `hwin` links the engine's acceptance test (highest block ever finalised
`≤ target + 10`) to each table's own window; it is an invariant of histories in which every write of a block is
stamped with that block's height and finalised before the reorg.  It fails for exactly one situation of the real
code, recorded as known finding F10: a signed transaction parked in the pending pool is a write stamped `H + 1`
while no block is under construction.
-/
import Brc20.Proofs.NodeSim
import Brc20.Proofs.NodeRun

namespace Brc20
open Node

/-- **Acceptance rule**: the call is refused (without effect, C05) exactly when a block is under construction, the
target is above the current height, or the target is more than 10 below the current height or below the highest
block ever finalised. -/
theorem C01.reorg_refused_iff (n : Node) (target : Nat) :
    (∃ e, (n.reorg target).2 = .err e) ↔
      (n.lbi.waiting ≠ 0 ∨ target > n.latestHeight ∨ n.latestHeight - target > W ∨ n.maxBlock.getD 0 > W + target) := by
  constructor
  · rintro ⟨e, he⟩
    apply Decidable.byContradiction
    intro hnr
    rw [Node.reorg_of_not_refused n target hnr] at he
    exact Node.reorgBody_not_err n target e he
  · exact fun h => (Node.reorg_of_refused h).imp fun _ he => congrArg Prod.snd he

/-- **Restoration**: an accepted reorg never hits the "too deep" panic and afterwards every table reads, for every
key, the value it had at the end of block `target`. (`hwin i` is `TSpec.legal W (g i) (.reorg target)`; the reads need
its first half only.) -/
theorem C01.reorg_restores_tables (n : Node) (g : TId → TSpec String String) (hs : NodeSim n g) (target : Nat)
    (hwin : ∀ i, (g i).maxEver ≤ target + W ∧ target ≤ (g i).maxEver)
    (hacc : ¬ (n.lbi.waiting ≠ 0 ∨ target > n.latestHeight ∨ n.latestHeight - target > W ∨ n.maxBlock.getD 0 > W + target)) :
    (n.reorg target).2 = .ok ∧ ∀ i k, ((n.reorg target).1.t i).latest k = (g i).readAt k target :=
  Node.reorg_restores_of_sim hs.sim hacc (fun i => (hwin i).1)

/-- Block rows above the target are gone, rows at or below it are untouched. -/
theorem C01.reorg_block_tables (n : Node) (target : Nat) (hok : (n.reorg target).2 = .ok) :
    ∀ i k, ((n.reorg target).1.b i).get k = (if k ≤ target then (n.b i).get k else none) :=
  Node.reorg_get hok

/-- After an accepted reorg the height is the target (when the target block exists). -/
theorem C01.reorg_height (n : Node) (hh : HeightInv n) (target : Nat) (hok : (n.reorg target).2 = .ok)
    (hex : ((n.b .numberToHash).get target).isSome) : (n.reorg target).1.latestHeight = target := by
  rw [Node.reorg_ok_latestHeight hok, BlockDb.lastKey_reorg_of_get (Option.isSome_iff_ne_none.mp hex)]
  rfl

/-- An accepted reorg leaves the node in simulation with the logs truncated at the target, so every later
execution continues from exactly that state. -/
theorem C01.reorg_keeps_simulation (n : Node) (g : TId → TSpec String String) (hs : NodeSim n g) (target : Nat)
    (hwin : ∀ i, (g i).maxEver ≤ target + W ∧ target ≤ (g i).maxEver)
    (hok : (n.reorg target).2 = .ok) :
    ∃ g', NodeSim (n.reorg target).1 g' ∧
      ∀ i k, (g' i).cur k = ((g i).cur k).filter (fun e => decide (e.1 ≤ target)) := by
  obtain ⟨f, hf, e⟩ := Node.reorg_ok_eq hok
  rw [e]
  refine ⟨fun i => ((g i).step (.reorg target)).step (.commit (reorgNb n target)), ⟨fun i => ?_⟩, fun i k => rfl⟩
  obtain ⟨t', e', s'⟩ := Table.step_sim (hs.sim i) (.reorg target) (hwin i)
  cases (hf i).symm.trans e'
  exact Table.sim_commit s' _

/-! ### Every reachable state

Reachable: `Node.Reach` (Proofs/Ops.lean). Non-vacuity: Proofs/Scenario.lean applies `ReachG.reorg_restores` (the
statement of the last theorem, with the logs that `ReachG` carries) to a concrete reachable node on which the rollback
changes reads (the examples after `Node.Example.final_pool`). -/

/-- The hypothesis `NodeSim` of the theorems above holds in every reachable state: every table refines a plain
per-key write log. -/
theorem C01.reachable_nodes_refine {n : Node} (h : Node.Reach n) : ∃ g, NodeSim n g := h.sim

/-- **C01 for every reachable state.** There are plain logs `g` which the tables refine, whose stamps obey the block
discipline (nothing above the height being built; at a block boundary every table except the two pending-pool tables
carries nothing above the tip and nothing above the highest block ever finalised), and with respect to which EVERY
reorg the engine does not refuse answers `ok` and makes every table read, for every key, its value at the end of the
target block - provided the pending-pool tables were not passed a block number above the tip.  That proviso is exactly
known finding F10 (a signed transaction parked after the tip was finalised is stamped `height + 1`); for the other ten
tables the window hypothesis of `C01.reorg_restores_tables` is discharged here. -/
theorem C01.reorg_restores_reachable {n : Node} (h : Node.Reach n) :
    ∃ g : TId → TSpec String String, NodeSim n g ∧
      (∀ i, (g i).top ≤ n.nextHeight) ∧
      (∀ i, (g i).maxEver ≤ max (n.mb + 1) n.nextHeight) ∧
      (n.lbi.waiting = 0 → ∀ i, i ∉ poolTables → (g i).maxEver ≤ n.mb) ∧
      (n.lbi.waiting = 0 → ∀ i, i ∉ poolTables → (g i).top ≤ n.latestHeight) ∧
      ∀ target, ¬ Node.Refused n target →
        (∀ i, i ∈ poolTables → (g i).maxEver ≤ max n.latestHeight n.mb) →
        (n.reorg target).2 = .ok ∧ ∀ i k, ((n.reorg target).1.t i).latest k = (g i).readAt k target := by
  obtain ⟨G, hG⟩ := h.inv
  obtain ⟨s1, s2, _, s4, s5, _⟩ := hG.stamps
  exact ⟨G.s, ⟨hG.core.sim⟩, s1, s2, s4, s5, fun target hnr hp => hG.reorg_restores hnr hp⟩

end Brc20
