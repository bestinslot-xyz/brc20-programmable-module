/-
C14 - The storage encoding is lossless, self-delimiting and order-preserving.

The codec model (`Model/Codec.lean`) is syntax-directed; the record descriptions are *regenerated from the Rust
source on every run* (`Gen/Codecs.lean`: the sequence each `impl Encode` writes and the sequence each
`impl Decode` reads).  `C14.codecs_aligned` is a kernel-checked `decide` over that whole table, so a swapped,
dropped or retyped field in any `decode` (or `encode`) body fails here, before any sampling.
-/
import Brc20.Proofs.Codec
import Brc20.Model.CodecRecords

namespace Brc20
open Ty

/-- Lossless and self-delimiting, for every type the codec can describe (all primitives, options, vectors,
pairs, hence every record, history and composite key): decoding `encode x ++ rest` returns exactly `x` and
exactly `rest`. Unbounded in sizes and nesting. -/
theorem C14.roundtrip (t : Ty) (x : t.denote) (rest : Bytes) (wf : WF t x) :
    decode t (encode t x ++ rest) = some (x, rest) :=
  Ty.roundtrip t x rest wf

/-- Hence values can be concatenated: a pair decodes componentwise from the concatenation. -/
theorem C14.concatenation (a b : Ty) (x : a.denote) (y : b.denote) (rest : Bytes) (wx : WF a x) (wy : WF b y) :
    decode (pair a b) (encode a x ++ encode b y ++ rest) = some ((x, y), rest) := by
  simpa [Ty.encode, List.append_assoc] using Ty.roundtrip (pair a b) (x, y) rest ⟨wx, wy⟩

/-- Distinct well-formed values have distinct encodings. -/
theorem C14.injective (t : Ty) (x y : t.denote) (wx : WF t x) (wy : WF t y) (h : encode t x = encode t y) : x = y := by
  have hx := Ty.roundtrip t x [] wx
  have hy := Ty.roundtrip t y [] wy
  rw [h, hy] at hx
  simpa using hx.symm

/-- Numeric keys (u64 block numbers, `U64ED`/`U128ED`/`U256ED`/`U512ED`: any fixed width) compare in their
encoded form exactly as their values do. -/
theorem C14.numeric_keys_order (w a b : Nat) (ha : a < 256 ^ w) (hb : b < 256 ^ w) :
    bytesLt (beBytes w a) (beBytes w b) = decide (a < b) :=
  be_order w a b ha hb

/-- Composite keys `(first, second)` with a fixed-width first component compare lexicographically:
in particular `(block, index)` keys (`U128ED` = block·2^64 + index is the 8+8 byte concatenation) and
`(address, nonce)` pending-pool keys. -/
theorem C14.composite_keys_order (x₁ x₂ y₁ y₂ : Bytes) (hl : x₁.length = x₂.length) :
    bytesLt (x₁ ++ y₁) (x₂ ++ y₂) = (bytesLt x₁ x₂ || (decide (x₁ = x₂) && bytesLt y₁ y₂)) := by
  rw [Bool.eq_iff_iff]
  simp only [Bool.or_eq_true, Bool.and_eq_true, decide_eq_true_iff, bytesLt_iff]
  exact append_lt_iff x₁ x₂ y₁ y₂ hl

/-! ## The tie to the source: the regenerated field lists -/

/-- A record's decode sequence reads the same types, in the same order, as its encode sequence writes, and
reads every non-legacy field under the name it was written under. -/
def Gen.RecordCodec.aligned (r : Gen.RecordCodec) : Bool :=
  decide (r.enc.map (·.ty) = r.dec.map (·.ty)) &&
  (r.enc.zip r.dec).all (fun p => p.1.name == p.2.name || p.1.name == "_" || p.2.name == "_" ||
    -- legacy: written from a defaulted struct field, ignored on read
    p.2.name.startsWith "_")

/-- **Kernel-checked over the whole regenerated table**: every record codec in `/repo/src/db/types` is aligned. -/
theorem C14.codecs_aligned : Gen.records.all Gen.RecordCodec.aligned = true := by decide

theorem tyOfR_dec_eq_enc {recs : List Gen.RecordCodec} (h : ∀ r ∈ recs, r.enc.map (·.ty) = r.dec.map (·.ty))
    (fuel : Nat) (t : Gen.RTy) : tyOfR recs true fuel t = tyOfR recs false fuel t := by
  induction fuel generalizing t with
  | zero => rfl
  | succ fuel ih =>
    cases t with
    | opt t => simp only [tyOfR, ih]
    | vec t => simp only [tyOfR, ih]
    | name n =>
      simp only [tyOfR]
      split
      · rfl
      · split
        · next r hr => simp only [if_true, Bool.false_eq_true, if_false, h r (List.mem_of_find?_eq_some hr), ih]
        · rfl

theorem C14.aligned_types : ∀ r ∈ Gen.records, r.enc.map (·.ty) = r.dec.map (·.ty) := fun r hr => by
  have := List.all_eq_true.mp C14.codecs_aligned r hr
  simp only [Gen.RecordCodec.aligned, Bool.and_eq_true, decide_eq_true_eq] at this
  exact this.1

/-- The model knows every Rust type that occurs in the regenerated lists (no field silently falls outside the
model), on both the encode and the decode side. (`12` is the nesting depth the model driver unfolds, `DriverC.fuel`.) -/
theorem C14.codecs_modelled :
    Gen.records.all (fun r => (tyOfR Gen.records false 12 (.name r.name)).isSome && (tyOfR Gen.records true 12 (.name r.name)).isSome) = true := by
  -- the two descriptions are equal (`tyOfR_dec_eq_enc`): one side is evaluated
  simp only [tyOfR_dec_eq_enc C14.aligned_types, Bool.and_self]
  decide

/-- The six record types the module persists are all in the table (a removed `impl` would drop out silently otherwise). -/
theorem C14.records_present :
    Gen.records.map (·.name) = ["AccountInfoED", "TxED", "TxReceiptED", "LogED", "BlockResponseED", "TraceED"] := rfl

/-- For every record: the description built from the source's *decode* sequence inverts the encoder built from
the source's *encode* sequence - because the two descriptions are equal (every record is aligned,
`C14.codecs_aligned`, and then they are equal at every depth, `tyOfR_dec_eq_enc`) and `C14.roundtrip` holds for
every description. -/
theorem C14.records_roundtrip :
    ∀ r ∈ Gen.records, tyOfR Gen.records true 12 (.name r.name) = tyOfR Gen.records false 12 (.name r.name) :=
  fun _ _ => tyOfR_dec_eq_enc C14.aligned_types _ _

/-- Per-key histories are stored as `u32 count ++ (u64 block ++ Option<V>)*`; they round-trip for any value codec. -/
theorem C14.history_roundtrip (v : Ty) (h : (vec (pair u64 (pair (opt v) unit))).denote) (rest : Bytes)
    (wf : WF _ h) : decode _ (encode (vec (pair u64 (pair (opt v) unit))) h ++ rest) = some (h, rest) :=
  Ty.roundtrip _ h rest wf

/-! Non-vacuity -/
example : WF (record [uint 4, uint 1, fixed 2]) ((5 : Nat), (7 : Nat), ([1, 2] : Bytes), ()) := by
  simp [WF, record]
example : decode (record [u8, opt u8]) (encode (record [u8, opt u8]) ((3 : Nat), some (9 : Nat), ()) ++ [0xAA])
    = some (((3 : Nat), some (9 : Nat), ()), [0xAA]) :=
  C14.roundtrip (record [u8, opt u8]) ((3 : Nat), some (9 : Nat), ()) [0xAA] (by simp [WF, record])

end Brc20
