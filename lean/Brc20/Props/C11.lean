/-
C11 - Concurrent readers and the indexer can never deadlock the server.

Model: `Model/Locks.lean` (writer-preferring read-write locks, interleaving of any number of threads).
Tie: `Gen/LockTraces.lean` holds every distinct lock program the running code showed (all RPC methods, recorded by
the tracer hook on every run) and a proposed lock order; the kernel re-checks every program against that order here.
Locks that are never write-locked while serving (`Gen.readOnlyLocks`, i.e. the process configuration) are not part of
the programs: readers of a lock nobody writes never wait.
Not covered: fairness of the OS scheduler, locks inside RocksDB / tokio; dynamic traces cover executed paths only.
-/
import Brc20.Proofs.Locks
import Brc20.Gen.LockTraces

namespace Brc20
open Locks

/-- **Every recorded handler obeys the discipline** (no re-acquisition of a held lock, acquisitions in strictly
increasing order of `Gen.lockRank`, balanced releases): kernel-checked over the whole regenerated table. -/
theorem C11.handlers_disciplined : Gen.lockPrograms.all (fun p => checkProg Gen.lockRank p.2 []) = true := by
  decide +kernel

/-- **No deadlock**: any number of threads, each running any of the recorded handler programs, under any
interleaving: every reachable state in which some request is unfinished has a thread that can take a step. -/
theorem C11.no_deadlock (ps : List Prog) (hps : ∀ p ∈ ps, p ∈ Gen.lockPrograms.map (·.2)) (s : Sys)
    (hr : Reach (initSys ps) s) : ¬ Stuck s := by
  apply disciplined_never_stuck Gen.lockRank ps _ s hr
  intro p hp
  obtain ⟨q, hq, rfl⟩ := List.mem_map.mp (hps p hp)
  exact List.all_eq_true.mp C11.handlers_disciplined q hq

/-- **Every request completes**: each step strictly decreases a natural-number measure, so every run is finite;
with `no_deadlock`, a maximal run ends with all requests finished. -/
theorem C11.runs_are_finite (s s' : Sys) (h : Step s s') : Locks.measure s' < Locks.measure s := by
  obtain ⟨i, t, hi, hen, rfl⟩ := h
  exact sum_set_lt _ s i t (stepThread t) hi (stepThread_measure s t hen)

/-- The hazard the discipline excludes is real: a second read guard of a lock the thread already read-holds, with
a writer queued in between, blocks both forever (this is what `get_block_by_hash` did before the `fix:`). -/
theorem C11.reentrant_read_is_a_deadlock :
    ∃ s, Reach (initSys [[.rd 0, .rd 0, .rel 0, .rel 0], [.wr 0, .rel 0]]) s ∧ Stuck s :=
  deadlock_of_sched _ [0, 1] ⟨_, rfl, by decide⟩

/-- ... and so is taking two locks in opposite orders. -/
theorem C11.order_inversion_is_a_deadlock :
    ∃ s, Reach (initSys [[.wr 0, .wr 1, .rel 1, .rel 0], [.wr 1, .wr 0, .rel 0, .rel 1]]) s ∧ Stuck s :=
  deadlock_of_sched _ [0, 0, 1, 1, 0, 1] ⟨_, rfl, by decide⟩

/-- The engine's two state locks are in the table, the database lock first (so the order is the intended one). -/
theorem C11.state_locks_ordered :
    Gen.lockNames.idxOf "Brc20ProgDatabase" < Gen.lockNames.length ∧
    Gen.lockNames.idxOf "LastBlockInfo" < Gen.lockNames.length ∧
    Gen.lockRank (Gen.lockNames.idxOf "Brc20ProgDatabase") < Gen.lockRank (Gen.lockNames.idxOf "LastBlockInfo") := by
  decide

end Brc20
