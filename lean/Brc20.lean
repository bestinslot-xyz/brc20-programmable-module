import Brc20.Model.AMap
import Brc20.Model.Auth
import Brc20.Model.BlockDb
import Brc20.Model.Codec
import Brc20.Model.CodecRecords
import Brc20.Model.Config
import Brc20.Model.DriverA
import Brc20.Model.DriverC
import Brc20.Model.DriverE
import Brc20.Model.DriverF
import Brc20.Model.DriverK
import Brc20.Model.DriverP
import Brc20.Model.DriverT
import Brc20.Model.FailedTx
import Brc20.Model.Forks
import Brc20.Model.Gas
import Brc20.Model.Hist
import Brc20.Model.Ledger
import Brc20.Model.Locks
import Brc20.Model.Logs
import Brc20.Model.Node
import Brc20.Model.NodeCrash
import Brc20.Model.PanicReview
import Brc20.Model.Payload
import Brc20.Model.Sim
import Brc20.Model.Slot
import Brc20.Model.Table
import Brc20.Model.TableSpec
import Brc20.Gen.Codecs
import Brc20.Gen.Constants
import Brc20.Gen.LockTraces
import Brc20.Gen.Methods
import Brc20.Gen.PanicSites
import Brc20.Gen.Slot
import Brc20.Gen.StartOrder
import Brc20.Gen.Tables
import Brc20.Proofs.AMap
import Brc20.Proofs.BlockDb
import Brc20.Proofs.Codec
import Brc20.Proofs.Crash
import Brc20.Proofs.CrashLemmas
import Brc20.Proofs.DriverE
import Brc20.Proofs.Events
import Brc20.Proofs.FailedTx
import Brc20.Proofs.Hist
import Brc20.Proofs.HistOps
import Brc20.Proofs.Ledger
import Brc20.Proofs.Locks
import Brc20.Proofs.Node
import Brc20.Proofs.NodeCrash
import Brc20.Proofs.NodeRun
import Brc20.Proofs.NodeSim
import Brc20.Proofs.Ops
import Brc20.Proofs.Payload
import Brc20.Proofs.Pool
import Brc20.Proofs.ReachCrash
import Brc20.Proofs.ReachProps
import Brc20.Proofs.ScanLemmas
import Brc20.Proofs.Scenario
import Brc20.Proofs.Sim
import Brc20.Proofs.Table
import Brc20.Proofs.TableOps
import Brc20.Proofs.TableScan
import Brc20.Props.C01
import Brc20.Props.C02
import Brc20.Props.C03
import Brc20.Props.C04
import Brc20.Props.C05
import Brc20.Props.C06
import Brc20.Props.C07
import Brc20.Props.C08
import Brc20.Props.C09
import Brc20.Props.C10
import Brc20.Props.C11
import Brc20.Props.C12
import Brc20.Props.C13
import Brc20.Props.C14
import Brc20.Props.C15
import Brc20.Props.C16
import Brc20.Props.C17
import Brc20.Props.C18
import Brc20.Props.C19
import Brc20.Props.C20
